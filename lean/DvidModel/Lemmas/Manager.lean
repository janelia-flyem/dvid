import DvidModel.Model.Manager
/-
  The association-list maps of the manager model (`lookup` = last write wins, `setKey`, `delKey`); `forall₂_mem_snoc`:
  a symmetric relation between all pairs of a list with one element appended, the shape of the invariant's uniqueness
  clauses when a node is added; and `mapM_some`: what a successful `mapM` (`merge` validating its parents) says of its
  result.
-/
namespace Dvid.Manager
variable {α β : Type}

theorem forall₂_mem_snoc {P : α → α → Prop} {l : List α} {c : α} (symm : ∀ a b, P a b → P b a)
    (hl : ∀ a ∈ l, ∀ b ∈ l, P a b) (hc : ∀ a ∈ l, P a c) (hcc : P c c) : ∀ a ∈ l ++ [c], ∀ b ∈ l ++ [c], P a b := by
  simp only [List.forall_mem_append, List.forall_mem_singleton]
  exact ⟨fun a ha => ⟨hl a ha, hc a ha⟩, fun b hb => symm b c (hc b hb), hcc⟩

theorem mapM_some {f : α → Option β} {l : List α} {r : List β} (h : l.mapM f = some r) :
    r.length = l.length ∧ ∀ b ∈ r, ∃ a ∈ l, f a = some b := by
  induction l generalizing r with
  | nil =>
    cases h
    exact ⟨rfl, nofun⟩
  | cons a t ih =>
    simp only [List.mapM_cons, bind, pure, Option.bind_eq_some_iff, Option.some.injEq] at h
    obtain ⟨b, ha, bs, ht, rfl⟩ := h
    obtain ⟨hl, hall⟩ := ih ht
    simp only [List.length_cons, List.mem_cons, forall_eq_or_imp, exists_eq_or_imp]
    exact ⟨congrArg (· + 1) hl, .inl ha, fun x hx => .inr (hall x hx)⟩

variable [DecidableEq α]

theorem lookup_snoc (l : List (α × β)) (k k' : α) (v : β) :
    lookup (l ++ [(k, v)]) k' = if k = k' then some v else lookup l k' := by
  simp only [lookup, List.reverse_append, List.reverse_singleton, List.singleton_append, List.find?_cons]
  by_cases h : k = k' <;> simp [h]

theorem lookup_delKey (l : List (α × β)) (k k' : α) :
    lookup (delKey l k) k' = if k' = k then none else lookup l k' := by
  simp only [lookup, delKey]
  rw [← List.filter_reverse, List.find?_filter]
  split
  · next h => simp [h]
  · next h =>
    congr 2
    funext x
    by_cases hx : x.1 = k' <;> simp [hx, h]

theorem lookup_delKey_ne {l : List (α × β)} {k k' : α} (h : k' ≠ k) : lookup (delKey l k) k' = lookup l k' := by
  rw [lookup_delKey, if_neg h]

theorem lookup_delKey_some {l : List (α × β)} {k k' : α} {v : β} (h : lookup (delKey l k) k' = some v) :
    lookup l k' = some v := by
  rw [lookup_delKey] at h
  split at h
  · cases h
  · exact h

theorem lookup_setKey_eq (l : List (α × β)) (k : α) (v : β) : lookup (setKey l k v) k = some v := by
  rw [setKey, lookup_snoc, if_pos rfl]

theorem lookup_setKey_ne {l : List (α × β)} {k k' : α} {v : β} (h : k' ≠ k) :
    lookup (setKey l k v) k' = lookup l k' := by
  rw [show setKey l k v = delKey l k ++ [(k, v)] from rfl, lookup_snoc, if_neg (Ne.symm h), lookup_delKey_ne h]

end Dvid.Manager
