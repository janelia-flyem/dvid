/- Facts about core's `List` that core does not state and several regions use; the `exists_mem_*` are the companions of
   core's `List.forall_mem_map`, `forall_mem_append`, `forall_mem_singleton`. -/
namespace Dvid
variable {α β γ : Type}

theorem exists_mem_map {f : α → β} {l : List α} {P : β → Prop} :
    (∃ b ∈ l.map f, P b) ↔ ∃ a ∈ l, P (f a) :=
  ⟨fun ⟨_, hb, h⟩ => let ⟨a, ha, e⟩ := List.mem_map.mp hb; ⟨a, ha, e ▸ h⟩,
   fun ⟨a, ha, h⟩ => ⟨f a, List.mem_map_of_mem ha, h⟩⟩

theorem exists_mem_append {l₁ l₂ : List α} {P : α → Prop} :
    (∃ a ∈ l₁ ++ l₂, P a) ↔ (∃ a ∈ l₁, P a) ∨ ∃ a ∈ l₂, P a := by
  simp only [List.mem_append, or_and_right, exists_or]

theorem exists_mem_singleton {a : α} {P : α → Prop} : (∃ b ∈ [a], P b) ↔ P a := by
  simp only [List.mem_singleton, exists_eq_left]

theorem pairwise_snoc {R : α → α → Prop} {l : List α} {a : α} :
    (l ++ [a]).Pairwise R ↔ l.Pairwise R ∧ ∀ x ∈ l, R x a := by
  simp only [List.pairwise_append, List.pairwise_singleton, true_and, List.forall_mem_singleton]

theorem nodup_snoc {l : List α} {a : α} : (l ++ [a]).Nodup ↔ l.Nodup ∧ a ∉ l :=
  pairwise_snoc.trans (and_congr_right' List.forall_mem_ne')

theorem eq_of_nodup_map {f : α → β} {l : List α} (h : (l.map f).Nodup) {x y : α} (hx : x ∈ l) (hy : y ∈ l)
    (e : f x = f y) : x = y :=
  have hp : l.Pairwise fun a b => f a ≠ f b := List.pairwise_map.1 h
  List.Pairwise.forall_of_forall_of_flip (R := fun a b => f a = f b → a = b) (fun _ _ _ => rfl)
    (hp.imp fun hab e => absurd e hab) (hp.imp fun hab e => absurd e.symm hab) hx hy e

theorem find?_of_nodup_map [BEq β] [LawfulBEq β] {f : α → β} {l : List α} (h : (l.map f).Nodup) {a : α}
    (ha : a ∈ l) : l.find? (f · == f a) = some a := by
  cases hf : l.find? (f · == f a) with
  | none => simpa using List.find?_eq_none.1 hf a ha
  | some b => rw [eq_of_nodup_map h (List.mem_of_find?_eq_some hf) ha (by simpa using List.find?_some hf)]

theorem foldl_fixed (φ : β → γ) {step : β → α → β} {l : List α}
    (h : ∀ b, ∀ a ∈ l, φ (step b a) = φ b) (b : β) : φ (l.foldl step b) = φ b :=
  List.foldlRecOn (motive := fun b' => φ b' = φ b) l step rfl fun b' hb a ha => (h b' a ha).trans hb

end Dvid
