import DvidModel.Model.Block
import DvidModel.Lemmas.Digits
/- Equations and bounds for Model/Block.  A bit field is given by its width `n` and the bit `j` it ends below
   (`slice`, `shl_lt`), the form both `getPacked2` and `putPacked2` unfold to; the voxel views of a multi-label
   block reduce to the table position `slotAt` selects. -/
namespace Dvid.Block

theorem mask_eq : ∀ p, p < 8 → mask p = 2 ^ (8 - p) - 1 := by decide

theorem and_mask (b : Nat) {p : Nat} (h : p < 8) : b &&& mask p = b % 2 ^ (8 - p) := by
  rw [mask_eq p h, Nat.and_two_pow_sub_one_eq_mod]

theorem slice (m : Nat) {n j : Nat} (h : n ≤ j) : m % 2 ^ j / 2 ^ (j - n) = m / 2 ^ (j - n) % 2 ^ n := by
  rw [← Nat.mod_mul_right_div_self, ← Nat.pow_add, Nat.sub_add_cancel h]

theorem shl_lt {x n j : Nat} (hx : x < 2 ^ n) (h : n ≤ j) : x <<< (j - n) < 2 ^ j := by
  -- `j` becomes `n + (j - n)` in both places; `add_sub_cancel_left` restores the exponent on the left
  rw [Nat.shiftLeft_eq, ← Nat.add_sub_cancel' h, Nat.pow_add, Nat.add_sub_cancel_left]
  exact Nat.mul_lt_mul_of_pos_right hx (Nat.two_pow_pos _)

theorem or_low {a x j : Nat} (ha : a % 2 ^ j = 0) (hx : x < 2 ^ j) :
    (a ||| x) % 2 ^ j = x ∧ (a ||| x) / 2 ^ j = a / 2 ^ j := by
  rw [Nat.or_mod_two_pow, Nat.or_div_two_pow, ha, Nat.mod_eq_of_lt hx, Nat.div_eq_of_lt hx, Nat.zero_or, Nat.or_zero]
  exact ⟨rfl, rfl⟩

theorem getPacked2_putPacked2 (b0 b1 bitPos bits idx : Nat) (hp : bitPos < 8) (hb : bitPos + bits ≤ 16)
    (hi : idx < 2 ^ bits) (hz : b0 % 2 ^ (8 - bitPos) = 0) :
    getPacked2 (putPacked2 b0 b1 bitPos bits idx).1 (putPacked2 b0 b1 bitPos bits idx).2 bitPos bits = idx
    ∧ (putPacked2 b0 b1 bitPos bits idx).1 / 2 ^ (8 - bitPos) = b0 / 2 ^ (8 - bitPos) := by
  unfold putPacked2 getPacked2
  -- the writer shifts up by `8 - bits - bitPos` (`16 - ..`), the reader down by `8 - bitPos - bits`: the same number;
  -- the writer's is put in the reader's form `j - bits`
  rw [Nat.sub_right_comm 8, Nat.sub_right_comm 16]
  have h8 : 2 ^ (8 - bitPos) ≤ 256 := Nat.pow_le_pow_right (by decide) (Nat.sub_le 8 bitPos)
  -- either way the part OR-ed into `b0` fits below bit `8 - bitPos`, so the reader's mask of `b0` returns it (`or_low`)
  by_cases hle : bitPos + bits ≤ 8
  · have hx := shl_lt hi (j := 8 - bitPos) (by omega)
    obtain ⟨hm, hd⟩ := or_low hz hx
    simp only [if_pos hle, Nat.mod_eq_of_lt (Nat.lt_of_lt_of_le hx h8), and_mask _ hp, hm, hd,
      Nat.shiftLeft_shiftRight, and_self]
  · -- the shifted index `v` fits below bit `16 - bitPos`, so its high byte `v / 256` (OR-ed into `b0`) fits below
    -- bit `8 - bitPos`; the low byte replaces `b1`
    have hv := shl_lt hi (j := 16 - bitPos) (by omega)
    rw [show 2 ^ (16 - bitPos) = 2 ^ (8 - bitPos) * 256 by rw [show 16 - bitPos = 8 - bitPos + 8 by omega, Nat.pow_add]]
      at hv
    have hv16 := Nat.lt_of_lt_of_le hv (Nat.mul_le_mul_right 256 h8)
    have hhi : (idx <<< (16 - bitPos - bits) &&& 0xFF00) >>> 8 = idx <<< (16 - bitPos - bits) / 256 := by
      rw [Nat.shiftRight_and_distrib, Nat.shiftRight_eq_div_pow]
      exact Nat.and_two_pow_sub_one_of_lt_two_pow (n := 8) (Nat.div_lt_of_lt_mul hv16)
    obtain ⟨hm, hd⟩ := or_low hz ((Nat.div_lt_iff_lt_mul (by decide)).2 hv)
    simp only [if_neg hle, Nat.mod_eq_of_lt hv16, hhi, Nat.and_two_pow_sub_one_eq_mod _ 8, and_mask _ hp, hm, hd,
      and_true]
    rw [← Nat.shiftLeft_add_eq_or_of_lt (Nat.mod_lt _ (by decide)), Nat.shiftLeft_eq, Nat.div_add_mod',
      Nat.shiftLeft_shiftRight]

/-- `k` is the bit length of `n` (`2^(k-1) ≤ n < 2^k`, 0 for `n = 0`), provided the fuel covers `n`. -/
theorem bitsForLoop_spec (f n b : Nat) :
    ∃ k, bitsForLoop f n b = b + k ∧ (n < 2 ^ f → n = 0 ∧ k = 0 ∨ 2 ^ k ≤ 2 * n ∧ n < 2 ^ k) := by
  induction f generalizing n b with
  | zero => exact ⟨0, rfl, fun h => Or.inl ⟨Nat.lt_one_iff.1 h, rfl⟩⟩
  | succ f ih =>
    unfold bitsForLoop
    split
    · obtain ⟨k, hk, hb⟩ := ih (n >>> 1) (b + 1)
      rw [Nat.shiftRight_eq_div_pow, Nat.pow_one] at hb
      refine ⟨k + 1, by rw [hk, Nat.add_assoc, Nat.add_comm 1], fun h => Or.inr ?_⟩
      rw [Nat.pow_succ] at h ⊢
      rcases hb (by omega) with ⟨h0, rfl⟩ | hb <;> omega
    · exact ⟨0, rfl, fun _ => Or.inl ⟨Nat.eq_zero_of_not_pos ‹_›, rfl⟩⟩

theorem bitsFor_eq_zero_iff (n : Nat) : bitsFor n = 0 ↔ n ≤ 1 := by
  unfold bitsFor
  split
  · omega
  · -- `n - 1 > 0`: the first iteration is peeled off and counts 1; the other 16 only add to it
    obtain ⟨k, hk, _⟩ := bitsForLoop_spec 16 ((n - 1) >>> 1) 1
    rw [show (17 : Nat) = 16 + 1 from rfl, bitsForLoop, if_pos (by omega), hk]
    omega

theorem lin_spec {sx sy sz x y z : Nat} (hx : x < sx) (hy : y < sy) (hz : z < sz) :
    z * sx * sy + y * sx + x < sx * sy * sz ∧ (z * sx * sy + y * sx + x) % sx = x ∧
    (z * sx * sy + y * sx + x) / sx % sy = y ∧ (z * sx * sy + y * sx + x) / (sx * sy) = z := by
  -- the index is the number with digits `x`, `y`, `z` in the mixed radix `sx`, `sy`
  have e : z * sx * sy + y * sx + x = (z * sy + y) * sx + x := by rw [Nat.add_mul, Nat.mul_right_comm]
  obtain ⟨dx, mx⟩ := unpack hx (z * sy + y)
  obtain ⟨dy, my⟩ := unpack hy z
  rw [e, ← Nat.div_div_eq_div_mul, mx, dx, my, dy, Nat.mul_comm sx sy, Nat.mul_comm _ sz]
  exact ⟨Nat.mul_assoc .. ▸ pack_lt hx (pack_lt hy hz), rfl, rfl, rfl⟩

theorem unlin_lt (sx sy sz i : Nat) (h : i < sx * sy * sz) : i % sx < sx ∧ i / sx % sy < sy ∧ i / (sx * sy) < sz := by
  have hx : 0 < sx := Nat.pos_of_ne_zero fun e => by simp [e] at h
  have hy : 0 < sy := Nat.pos_of_ne_zero fun e => by simp [e] at h
  exact ⟨Nat.mod_lt _ hx, Nat.mod_lt _ hy, Nat.div_lt_of_lt_mul h⟩

theorem sbNum_lt (b : Block) (x y z : Nat) (hx : x < 8 * b.gx) (hy : y < 8 * b.gy) (hz : z < 8 * b.gz) :
    sbNum b x y z < b.gx * b.gy * b.gz :=
  (lin_spec (Nat.div_lt_of_lt_mul hx) (Nat.div_lt_of_lt_mul hy) (Nat.div_lt_of_lt_mul hz)).1

theorem sbVox_lt (x y z : Nat) : sbVox x y z < 512 := by
  unfold sbVox
  omega

theorem scan_spec (l : List Nat) (acc : Array (Nat × Nat)) (st : Nat × Nat) :
    (l.foldl (fun (acc : Array (Nat × Nat) × (Nat × Nat)) n => (acc.1.push acc.2, sbAdvance acc.2 n)) (acc, st)).1 =
      acc ++ ((List.range l.length).map fun k => (l.take k).foldl sbAdvance st).toArray := by
  induction l generalizing acc st with
  | nil => simp
  | cons n ns ih =>
    rw [List.foldl_cons, ih, List.length_cons, List.range_succ_eq_map, List.map_cons, List.map_map]
    -- the pushed `st` is entry 0 (`take 0`); `take (k + 1) (n :: ns)` folds `n` first
    simp [Function.comp_def]

theorem startsArr_getD {a : Array Nat} {k : Nat} (hk : k < a.size) :
    (startsArr a).getD k (0, 0) = sbStart a.toList k := by
  unfold startsArr sbStart
  rw [← Array.foldl_toList, scan_spec]
  -- entry `k` of a `map` over `range`
  simp [Array.getD_eq_getD_getElem?, hk]

theorem wf_spec (b : Block) (h : wf b = true) :
    b.numSB.size = b.gx * b.gy * b.gz ∧
    (∀ k, k < b.numSB.size → 1 ≤ b.numSB.getD k 0 ∧
      (sbStart b.numSB.toList k).1 + b.numSB.getD k 0 ≤ b.sbIdx.size ∧
      ∀ i, i < 512 → slotAt b (sbStart b.numSB.toList k) (b.numSB.getD k 0) i <
        (sbStart b.numSB.toList k).1 + b.numSB.getD k 0) ∧
    ∀ p, p < b.sbIdx.size → b.sbIdx.getD p 0 < b.labels.size := by
  simp only [wf, wfSB, Bool.and_eq_true, decide_eq_true_eq, List.all_eq_true, List.mem_range] at h
  obtain ⟨⟨hsize, hsb⟩, hidx⟩ := h
  refine ⟨hsize, fun k hk => and_assoc.1 (hsb k hk), fun p hp => ?_⟩
  rw [Array.getD_eq_getD_getElem?, Array.getElem?_eq_getElem hp]
  exact hidx b.sbIdx[p] (Array.getElem_mem_toList hp)

theorem wfBlock_cases (b : Block) (h : wfBlock b = true) : b.labels.size = 1 ∨ (2 ≤ b.labels.size ∧ wf b = true) := by
  simpa only [wfBlock, Bool.or_eq_true, beq_iff_eq, Bool.and_eq_true, decide_eq_true_eq] using h

theorem voxLabel_multi (b : Block) (h2 : 2 ≤ b.labels.size) (x y z : Nat) (hk : sbNum b x y z < b.numSB.size) :
    voxLabel b (startsArr b.numSB) x y z =
      labelSB b (sbStart b.numSB.toList (sbNum b x y z)) (b.numSB.getD (sbNum b x y z) 0) (sbVox x y z) := by
  simp only [voxLabel, show ¬ b.labels.size < 2 by omega, if_false, startsArr_getD hk]

theorem valueNat_multi (b : Block) (h2 : 2 ≤ b.labels.size) (x y z : Nat) :
    valueNat b x y z = labelOfPos b
      (slotAt b (sbStart b.numSB.toList (sbNum b x y z)) (b.numSB.getD (sbNum b x y z) 0) (sbVox x y z)) := by
  simp only [valueNat, slotAt, show b.labels.size ≠ 0 by omega, show b.labels.size ≠ 1 by omega, if_false,
    bitsFor_eq_zero_iff, apply_ite (labelOfPos b)]

theorem value_inside (b : Block) (x y z : Nat) (hx : x < 8 * b.gx) (hy : y < 8 * b.gy) (hz : z < 8 * b.gz) :
    value b x y z = valueNat b x y z := by
  have : ¬ ((x : Int) < 0 ∨ (x : Int) ≥ 8 * (b.gx : Int) ∨ (y : Int) < 0 ∨ (y : Int) ≥ 8 * (b.gy : Int) ∨
      (z : Int) < 0 ∨ (z : Int) ≥ 8 * (b.gz : Int)) := by omega
  simp only [value, this, ↓reduceIte, Int.toNat_natCast]

theorem size_decode (b : Block) : (decode b).size = nvox b := Array.size_ofFn

theorem decode_getElem (b : Block) (i : Nat) (hi : i < (decode b).size) :
    (decode b)[i] = voxLabel b (startsArr b.numSB) (i % (8 * b.gx)) (i / (8 * b.gx) % (8 * b.gy))
      (i / (8 * b.gx * (8 * b.gy))) :=
  Array.getElem_ofFn _

end Dvid.Block
