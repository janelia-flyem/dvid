import DvidModel.Model.Bytes
import DvidModel.Lemmas.Digits
/- `bytes.Compare` is decided at the first differing byte: it peels common prefixes, is decided inside prefix-free
   components, and reads a big-endian id most significant digit first.
   `FileLog`, `Serialize` and `Rle` spell a little-endian field as the list of `UInt8.ofNat (n / 256^i)` and read it
   back as the weighted byte sum: `le16_digits`/`le32_digits` are their round trips up to unfolding. -/
namespace Dvid

theorem fromBe32_be32_mod (n : Nat) (r : Bytes) : fromBe32 (be32 n ++ r) = n % 4294967296 := by
  simp only [be32, List.cons_append, fromBe32, UInt8.toNat_ofNat']
  rw [Nat.add_assoc, Nat.add_assoc, be_digit 256 256, be_digit 65536 256, be_digit 16777216 256]

theorem fromBe32_be32_append (n : Nat) (h : n < 4294967296) (r : Bytes) : fromBe32 (be32 n ++ r) = n := by
  rw [fromBe32_be32_mod, Nat.mod_eq_of_lt h]

@[simp] theorem be32_length (n : Nat) : (be32 n).length = 4 := rfl

theorem be32_injective {a b : Nat} (ha : a < 4294967296) (hb : b < 4294967296) (h : be32 a = be32 b) : a = b := by
  rw [← fromBe32_be32_append a ha [], h, fromBe32_be32_append b hb]

theorem le16_digits {n : Nat} (h : n < 65536) :
    (UInt8.ofNat n).toNat + (UInt8.ofNat (n / 256)).toNat * 256 = n := by
  simp only [UInt8.toNat_ofNat']
  rw [le_digit 256 256]
  exact Nat.mod_eq_of_lt h

theorem le32_digits {n : Nat} (h : n < 4294967296) :
    (UInt8.ofNat n).toNat + (UInt8.ofNat (n / 256)).toNat * 256 + (UInt8.ofNat (n / 65536)).toNat * 65536 +
      (UInt8.ofNat (n / 16777216)).toNat * 16777216 = n := by
  simp only [UInt8.toNat_ofNat']
  rw [le_digit 256 256, le_digit 65536 256, le_digit 16777216 256]
  exact Nat.mod_eq_of_lt h

theorem cmpBytes_cons_lt {a b : UInt8} (h : a < b) {x y : Bytes} : cmpBytes (a :: x) (b :: y) = .lt :=
  if_pos h

theorem cmpBytes_cons_gt {a b : UInt8} (h : b < a) {x y : Bytes} : cmpBytes (a :: x) (b :: y) = .gt := by
  rw [cmpBytes, if_neg (UInt8.lt_asymm h), if_pos h]

@[simp] theorem cmpBytes_cons_self (a : UInt8) (x y : Bytes) : cmpBytes (a :: x) (a :: y) = cmpBytes x y := by
  rw [cmpBytes, if_neg (UInt8.lt_irrefl a), if_neg (UInt8.lt_irrefl a)]

theorem byte_le_max (b : UInt8) : b ≤ 255 := UInt8.le_iff_toNat_le.mpr (Nat.le_of_lt_succ b.toNat_lt)

theorem cmpBytes_eq_iff (a b : Bytes) : cmpBytes a b = .eq ↔ a = b := by
  induction a generalizing b with
  | nil => cases b <;> simp [cmpBytes]
  | cons x xs ih =>
    cases b with
    | nil => simp [cmpBytes]
    | cons y ys =>
      rcases Std.lt_trichotomy x y with h | rfl | h
      · simp [cmpBytes_cons_lt h, UInt8.ne_of_lt h]
      · simp [ih]
      · simp [cmpBytes_cons_gt h, (UInt8.ne_of_lt h).symm]

theorem bytesLE_iff {a b : Bytes} : bytesLE a b = true ↔ cmpBytes a b ≠ .gt := bne_iff_ne

theorem bytesLT_iff {a b : Bytes} : bytesLT a b = true ↔ cmpBytes a b = .lt := beq_iff_eq

theorem cmpBytes_append_left (p a b : Bytes) : cmpBytes (p ++ a) (p ++ b) = cmpBytes a b := by
  induction p with
  | nil => rfl
  | cons x xs ih => rw [List.cons_append, List.cons_append, cmpBytes_cons_self, ih]

theorem cmpBytes_nil_right (x : Bytes) : cmpBytes x [] ≠ .lt := by
  cases x <;> exact Ordering.noConfusion

/-- what the rule documented on `storage.TKey` (storage/keyvalue.go: the keys of a class have identical length or, if of
    varying length, share no common prefix) gives for two distinct keys -/
def NoPrefix (a b : Bytes) : Prop := ¬ a <+: b ∧ ¬ b <+: a

theorem cmpBytes_append_noPrefix {a b : Bytes} (h : NoPrefix a b) (x y : Bytes) :
    cmpBytes (a ++ x) (b ++ y) = cmpBytes a b ∧ cmpBytes a b ≠ .eq := by
  induction a generalizing b with
  | nil => exact absurd List.nil_prefix h.1
  | cons p ps ih =>
    cases b with
    | nil => exact absurd List.nil_prefix h.2
    | cons q qs =>
      rcases Std.lt_trichotomy p q with hl | rfl | hl
      · simp [cmpBytes_cons_lt hl]
      · simp only [List.cons_append, cmpBytes_cons_self]
        exact ih ⟨fun hp => h.1 (List.cons_prefix_cons.mpr ⟨rfl, hp⟩),
          fun hp => h.2 (List.cons_prefix_cons.mpr ⟨rfl, hp⟩)⟩
      · simp [cmpBytes_cons_gt hl]

theorem prefix_of_between {p x y k : Bytes} (hlo : cmpBytes (p ++ x) k ≠ .gt) (hhi : cmpBytes k (p ++ y) ≠ .gt) :
    p <+: k := by
  induction p generalizing k with
  | nil => exact List.nil_prefix
  | cons a p ih =>
    cases k with
    | nil => exact absurd rfl hlo
    | cons b k =>
      rcases Std.lt_trichotomy a b with h | rfl | h
      · exact absurd (cmpBytes_cons_gt h) hhi
      · rw [List.cons_append, cmpBytes_cons_self] at hlo hhi
        exact List.cons_prefix_cons.mpr ⟨rfl, ih hlo hhi⟩
      · exact absurd (cmpBytes_cons_gt h) hlo

theorem cmpBytes_cons_le {a b : UInt8} (h : a ≤ b) {x y : Bytes} (hxy : cmpBytes x y ≠ .gt) :
    cmpBytes (a :: x) (b :: y) ≠ .gt := by
  rcases UInt8.lt_or_eq_of_le h with hl | rfl
  · rw [cmpBytes_cons_lt hl]
    exact Ordering.noConfusion
  · rwa [cmpBytes_cons_self]

theorem cmpBytes_zeros_le (n : Nat) {x : Bytes} (h : n ≤ x.length) : cmpBytes (List.replicate n 0) x ≠ .gt := by
  induction n generalizing x with
  | zero => cases x <;> exact Ordering.noConfusion
  | succ n ih =>
    cases x with
    | nil => exact absurd h (Nat.not_succ_le_zero n)
    | cons b x => exact cmpBytes_cons_le UInt8.zero_le (ih (Nat.le_of_succ_le_succ h))

theorem cmpBytes_le_ones (n : Nat) {x : Bytes} (h : x.length ≤ n) : cmpBytes x (List.replicate n 255) ≠ .gt := by
  induction x generalizing n with
  | nil => cases n <;> exact Ordering.noConfusion
  | cons b x ih =>
    cases n with
    | zero => exact absurd h (Nat.not_succ_le_zero x.length)
    | succ n => exact cmpBytes_cons_le (byte_le_max b) (ih n (Nat.le_of_succ_le_succ h))

theorem cmpBytes_be32 (a b : Nat) (ha : a < 4294967296) (hb : b < 4294967296) (x y : Bytes) :
    cmpBytes (be32 a ++ x) (be32 b ++ y) =
      if a < b then .lt else if b < a then .gt else cmpBytes x y := by
  -- byte by byte the comparison is on the digits `a / 256^k % 256`; merge them from the least significant end
  simp only [be32, List.cons_append, List.nil_append, cmpBytes, UInt8.lt_iff_toNat_lt, UInt8.toNat_ofNat']
  rw [cmp_digit 256 256, cmp_digit 65536 256, cmp_digit 16777216 256, Nat.mod_eq_of_lt ha, Nat.mod_eq_of_lt hb]

end Dvid
