import DvidModel.Model.Key
import DvidModel.Lemmas.Bytes
/- The generated layouts as explicit concatenations.  Every data key, and each end of a datum's version bracket, is
   `unversionedKeyPrefix i tk` plus a 9-byte trailer (version, client, marker): keys of one datum share the prefix
   and differ in the trailer; the parsers slice a key at 5 bytes from the front and 9 from the back. -/
namespace Dvid.Key

abbrev U32 (n : Nat) : Prop := n < 4294967296

@[simp] theorem _root_.Dvid.KF.build_nil (i v c : Nat) (tk : Bytes) : KF.build [] i v c tk = [] := rfl
@[simp] theorem _root_.Dvid.KF.build_cons (f : KF) (l : List KF) (i v c : Nat) (tk : Bytes) :
    KF.build (f :: l) i v c tk = f.bytes i v c tk ++ KF.build l i v c tk := List.flatMap_cons

theorem unversionedKeyPrefix_eq (i : Nat) (tk : Bytes) :
    unversionedKeyPrefix i tk = [1] ++ be32 i ++ tk := by
  simp [unversionedKeyPrefix, Gen.layoutUnversionedKeyPrefix, KF.bytes]

theorem unversionedKeyPrefix_append (i : Nat) (tk : Bytes) :
    unversionedKeyPrefix i tk = unversionedKeyPrefix i [] ++ tk := by
  rw [unversionedKeyPrefix_eq, unversionedKeyPrefix_eq, List.append_nil]

theorem dataKey_eq (i v c : Nat) (tk : Bytes) (tomb : Bool) :
    dataKey i v c tk tomb = unversionedKeyPrefix i tk ++ (be32 v ++ (be32 c ++ [if tomb then 79 else 3])) := by
  cases tomb <;>
    simp [dataKey, constructDataKey, tombstoneKey, Gen.layoutConstructDataKey, Gen.layoutTombstoneKey, KF.bytes,
      unversionedKeyPrefix_eq]

theorem minVersionKey_eq (i : Nat) (tk : Bytes) :
    minVersionKey i tk = unversionedKeyPrefix i tk ++ List.replicate 9 0 := by
  simp only [minVersionKey, Gen.layoutMinVersionKey, unversionedKeyPrefix_eq, KF.build_cons, KF.build_nil, KF.bytes,
    List.append_assoc]
  rfl

theorem maxVersionKey_eq (i : Nat) (tk : Bytes) :
    maxVersionKey i tk = unversionedKeyPrefix i tk ++ List.replicate 9 255 := by
  simp only [maxVersionKey, Gen.layoutMaxVersionKey, unversionedKeyPrefix_eq, KF.build_cons, KF.build_nil, KF.bytes,
    List.append_assoc]
  rfl

theorem instanceRangeMin_eq (i : Nat) : instanceRangeMin i = unversionedKeyPrefix i [] := rfl

theorem instanceRangeMax_eq (i : Nat) : instanceRangeMax i = unversionedKeyPrefix (u32succ i) [] := rfl

theorem keyRange_eq_instanceRange (i : Nat) :
    keyRangeMin i = instanceRangeMin i ∧ keyRangeMax i = instanceRangeMax i :=
  ⟨rfl, rfl⟩

theorem cmpBytes_prefix {i i' : Nat} (hi : U32 i) (hi' : U32 i') (tk tk' x y : Bytes) :
    cmpBytes (unversionedKeyPrefix i tk ++ x) (unversionedKeyPrefix i' tk' ++ y) =
      if i < i' then .lt else if i' < i then .gt else cmpBytes (tk ++ x) (tk' ++ y) := by
  simp only [unversionedKeyPrefix_eq, List.append_assoc, List.cons_append, List.nil_append, cmpBytes_cons_self]
  exact cmpBytes_be32 i i' hi hi' _ _

theorem cmpBytes_prefix_same (i : Nat) (tk tk' x y : Bytes) :
    cmpBytes (unversionedKeyPrefix i tk ++ x) (unversionedKeyPrefix i tk' ++ y) = cmpBytes (tk ++ x) (tk' ++ y) := by
  simp only [unversionedKeyPrefix_eq, List.append_assoc, cmpBytes_append_left]

theorem dataKey_in_bracket (i v c : Nat) (tk : Bytes) (m : Bool) :
    cmpBytes (minVersionKey i tk) (dataKey i v c tk m) ≠ .gt ∧
    cmpBytes (dataKey i v c tk m) (maxVersionKey i tk) ≠ .gt := by
  rw [dataKey_eq, minVersionKey_eq, maxVersionKey_eq, cmpBytes_append_left, cmpBytes_append_left]
  exact ⟨cmpBytes_zeros_le 9 (Nat.le_refl 9), cmpBytes_le_ones 9 (Nat.le_refl 9)⟩

theorem of_prefix_dataKey {i i' v' c' : Nat} {tk tk' : Bytes} {m' : Bool} (hi : U32 i) (hi' : U32 i')
    (h : unversionedKeyPrefix i tk <+: dataKey i' v' c' tk' m') : i' = i ∧ (tk <+: tk' ∨ tk' <+: tk) := by
  rw [dataKey_eq, unversionedKeyPrefix_eq, unversionedKeyPrefix_eq] at h
  simp only [List.append_assoc, List.prefix_append_right_inj] at h
  obtain ⟨t, ht⟩ := h
  rw [List.append_assoc] at ht
  obtain ⟨hb, htk⟩ := List.append_inj ht rfl
  exact ⟨(be32_injective hi hi' hb).symm, List.prefix_or_prefix_of_prefix ⟨t, htk⟩ (List.prefix_append tk' _)⟩

/-- every length guard of the parsers holds on a constructed key -/
theorem dataKey_min_length (i v c : Nat) (tk : Bytes) (tomb : Bool) : 14 ≤ (dataKey i v c tk tomb).length := by
  simp only [dataKey_eq, unversionedKeyPrefix_eq, List.length_append, List.length_cons, List.length_nil, be32_length]
  omega

theorem slice_front (l T : Bytes) (hT : T.length = 9) : (l ++ T).take ((l ++ T).length - 9) = l :=
  List.take_left' (by rw [List.length_append, hT, Nat.add_sub_cancel])

theorem slice_trailer (l T : Bytes) (hT : T.length = 9) : (l ++ T).drop ((l ++ T).length - 9) = T :=
  List.drop_left' (by rw [List.length_append, hT, Nat.add_sub_cancel])

theorem dataKey_head (i v c : Nat) (tk : Bytes) (tomb : Bool) :
    (dataKey i v c tk tomb).head? = some (UInt8.ofNat Gen.dataKeyPrefix) := by
  rw [dataKey_eq, unversionedKeyPrefix_eq]
  rfl

theorem tkeyFromKey_dataKey (i v c : Nat) (tk : Bytes) (tomb : Bool) : tkeyFromKey (dataKey i v c tk tomb) = some tk := by
  have hlen : ¬ (dataKey i v c tk tomb).length < 1 + 4 + (4 + 4 + 1) := Nat.not_lt.mpr (dataKey_min_length i v c tk tomb)
  simp only [tkeyFromKey, dataKey_head, beq_self_eq_true, trailerLen, Gen.instanceIDSize, Gen.versionIDSize,
    Gen.clientIDSize, hlen, if_false, if_true]
  rw [dataKey_eq, unversionedKeyPrefix_eq, slice_front _ _ rfl]
  rfl

theorem dataKeyToLocalIDs_dataKey (i v c : Nat) (tk : Bytes) (tomb : Bool) :
    dataKeyToLocalIDs (dataKey i v c tk tomb) = some (i % 4294967296, v % 4294967296, c % 4294967296) := by
  have hlen : 1 + 4 + (4 + 4 + 1) ≤ (dataKey i v c tk tomb).length := dataKey_min_length i v c tk tomb
  simp only [dataKeyToLocalIDs, dataKey_head, beq_self_eq_true, trailerLen, Gen.instanceIDSize, Gen.versionIDSize,
    Gen.clientIDSize, hlen, and_self, if_true]
  -- version and client are both read off the trailer: the client's `drop (start + 4)` as `drop 4` of `drop start`
  rw [dataKey_eq, unversionedKeyPrefix_eq, ← List.drop_drop, slice_trailer _ _ rfl]
  simp only [List.append_assoc, List.cons_append, List.nil_append, List.drop_succ_cons, List.drop_zero,
    List.drop_left' (be32_length v), fromBe32_be32_mod]

theorem versionFromKey_dataKey (i v c : Nat) (tk : Bytes) (tomb : Bool) :
    versionFromKey (dataKey i v c tk tomb) = some (v % 4294967296) := by
  have hlen : 4 + 4 + 4 + 2 ≤ (dataKey i v c tk tomb).length := dataKey_min_length i v c tk tomb
  simp only [versionFromKey, dataKey_head, beq_self_eq_true, trailerLen, Gen.instanceIDSize, Gen.versionIDSize,
    Gen.clientIDSize, hlen, and_self, if_true]
  rw [dataKey_eq, unversionedKeyPrefix_eq, slice_trailer _ _ rfl, fromBe32_be32_mod]

theorem isTombstone_dataKey (i v c : Nat) (tk : Bytes) (tomb : Bool) : isTombstone (dataKey i v c tk tomb) = tomb := by
  rw [isTombstone, dataKey_eq, ← List.append_assoc, ← List.append_assoc, List.getLast?_concat]
  cases tomb <;> rfl

theorem dataKey_marker_ne (i v c : Nat) (tk : Bytes) : dataKey i v c tk false ≠ dataKey i v c tk true := fun h => by
  simpa only [isTombstone_dataKey, Bool.false_eq_true] using congrArg isTombstone h

theorem isDataKey_dataKey (i v c : Nat) (tk : Bytes) (tomb : Bool) : isDataKey (dataKey i v c tk tomb) = true := by
  have hlen : Gen.isDataKeyMinLen ≤ (dataKey i v c tk tomb).length := dataKey_min_length i v c tk tomb
  simp only [isDataKey, dataKey_head, hlen, decide_true, beq_self_eq_true, Bool.and_self]

theorem dataKey_inj {i v c i' v' c' : Nat} {tk tk' : Bytes} {m m' : Bool}
    (hi : U32 i) (hv : U32 v) (hc : U32 c) (hi' : U32 i') (hv' : U32 v') (hc' : U32 c')
    (h : dataKey i v c tk m = dataKey i' v' c' tk' m') : i = i' ∧ tk = tk' ∧ v = v' ∧ c = c' ∧ m = m' := by
  have htk := congrArg tkeyFromKey h
  have hid := congrArg dataKeyToLocalIDs h
  have hm := congrArg isTombstone h
  simp only [tkeyFromKey_dataKey, dataKeyToLocalIDs_dataKey, isTombstone_dataKey, Option.some.injEq, Prod.mk.injEq,
    Nat.mod_eq_of_lt hi, Nat.mod_eq_of_lt hv, Nat.mod_eq_of_lt hc, Nat.mod_eq_of_lt hi', Nat.mod_eq_of_lt hv',
    Nat.mod_eq_of_lt hc'] at htk hid hm
  exact ⟨hid.1, htk, hid.2.1, hid.2.2, hm⟩

theorem dataKey_ne_of {i v i' v' : Nat} {tk tk' : Bytes} {m m' : Bool}
    (hi : U32 i) (hv : U32 v) (hi' : U32 i') (hv' : U32 v')
    (h : ¬ (i = i' ∧ tk = tk' ∧ v = v')) : dataKey i v 0 tk m ≠ dataKey i' v' 0 tk' m' := by
  intro he
  obtain ⟨ei, etk, ev, -, -⟩ := dataKey_inj hi hv (by decide) hi' hv' (by decide) he
  exact h ⟨ei, etk, ev⟩

end Dvid.Key
