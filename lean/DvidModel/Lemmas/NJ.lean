import DvidModel.Model.NJ
import DvidModel.Lemmas.List
/-
  `updateJSON` (C16), read one key at a time.  Each loop step writes only keys known from its item (a deleted field
  and its two stamps; the two stamps of a field; one carried field), so what a key reads after a loop is decided by
  the few steps that name it.  A step is a cascade of conditional `set`s: push `get · k` through the ifs and decide
  the key comparisons of `get_set` / `get_erase`.
-/
namespace Dvid.NJ

theorem get_nil (k : Key) : get [] k = none := rfl

theorem get_cons (p : Key × Val) (ps : Obj) (k : Key) :
    get (p :: ps) k = if p.1 = k then some p.2 else get ps k := by
  unfold get
  by_cases h : p.1 = k
  · rw [List.find?_cons_of_pos (by simpa using h), if_pos h]
    rfl
  · rw [List.find?_cons_of_neg (by simpa using h), if_neg h]

theorem get_append (a b : Obj) (k : Key) : get (a ++ b) k = (get a k).or (get b k) := by
  unfold get
  rw [List.find?_append]
  cases List.find? (fun x => x.1 == k) a <;> rfl

theorem has_eq_get (o : Obj) (k : Key) : has o k = (get o k).isSome := by
  unfold has get
  rw [Option.isSome_map, List.isSome_find?]

theorem get_erase (o : Obj) (k f : Key) : get (erase o k) f = if f = k then none else get o f := by
  induction o with
  | nil => exact (ite_self none).symm
  | cons p ps ih =>
    unfold erase at ih ⊢
    simp only [List.filter_cons, bne_iff_ne, ne_eq, ite_not, apply_ite (get · f), get_cons, ih]
    -- an identity between ifs on `p.1 = k`, `p.1 = f`, `f = k`
    grind

theorem get_map_set (o : Obj) (k f : Key) (v : Val) :
    get (o.map fun p => if p.1 == k then (k, v) else p) f = if f = k then (get o k).map fun _ => v else get o f := by
  induction o with
  | nil => exact (ite_self none).symm
  | cons p ps ih =>
    rw [List.map_cons, get_cons, get_cons, get_cons, ih]
    simp only [beq_iff_eq, apply_ite Prod.fst, apply_ite Prod.snd, apply_ite (Option.map _), Option.map_some]
    -- an identity between ifs on `p.1 = k`, `p.1 = f`, `f = k`
    grind

theorem get_set (o : Obj) (k f : Key) (v : Val) : get (set o k v) f = if f = k then some v else get o f := by
  unfold set
  rw [has_eq_get]
  cases h : get o k with
  | some w =>
    rw [if_pos Option.isSome_some, get_map_set, h]
    rfl
  | none =>
    rw [if_neg nofun, get_append, get_cons, get_nil]
    by_cases hf : f = k
    · rw [if_pos hf, hf, h, if_pos rfl]
      rfl
    · rw [if_neg hf, if_neg (Ne.symm hf), Option.or_none]

theorem keys_cons (p : Key × Val) (ps : Obj) : keys (p :: ps) = p.1 :: keys ps := rfl

theorem get_eq_none_iff {o : Obj} {k : Key} : get o k = none ↔ k ∉ keys o := by
  unfold get keys
  rw [Option.map_eq_none_iff, List.find?_eq_none, List.mem_map]
  simp only [beq_iff_eq, not_exists, not_and]

theorem get_of_mem_nodup {o : Obj} {p : Key × Val} (hp : p ∈ o) (hnd : (keys o).Nodup) : get o p.1 = some p.2 := by
  rw [get, find?_of_nodup_map hnd hp]
  rfl

theorem keys_erase_nodup (o : Obj) (d : Key) (h : (keys o).Nodup) : (keys (erase o d)).Nodup :=
  List.Nodup.sublist (List.Sublist.map _ List.filter_sublist) h

theorem ite_mem_cons {α : Type} (k d : Key) (ds : List Key) (x y : α) :
    (if k ∈ ds then x else if k = d then x else y) = if k ∈ d :: ds then x else y := by
  simp only [List.mem_cons]
  -- an identity between ifs on `k = d`, `k ∈ ds`
  grind

theorem fold_erase_get (ds : List Key) (o : Obj) (f : Key) :
    get (ds.foldl erase o) f = if f ∈ ds then none else get o f := by
  induction ds generalizing o with
  | nil => rfl
  | cons d ds ih =>
    rw [List.foldl_cons, ih, get_erase]
    exact ite_mem_cons f d ds none (get o f)

theorem fold_erase_keys_nodup (ds : List Key) {o : Obj} (h : (keys o).Nodup) : (keys (ds.foldl erase o)).Nodup :=
  List.foldlRecOn (motive := fun o => (keys o).Nodup) ds erase h fun o ho d _ => keys_erase_nodup o d ho

theorem key_ext : ∀ {a b : Key}, a.root = b.root → a.kind = b.kind → a = b
  | ⟨_, _⟩, ⟨_, _⟩, rfl, rfl => rfl

theorem plain_ne_stamps {f : Key} (hf : f.kind = .plain) (g : Key) : f ≠ userOf g ∧ f ≠ timeOf g :=
  ⟨fun h => Kind.noConfusion (h ▸ hf), fun h => Kind.noConfusion (h ▸ hf)⟩

theorem ne_of_root_ne {k d : Key} (h : d.root ≠ k.root) : k ≠ d ∧ k ≠ userOf d ∧ k ≠ timeOf d :=
  ⟨fun e => h (congrArg Key.root e).symm, fun e => h (congrArg Key.root e).symm,
    fun e => h (congrArg Key.root e).symm⟩

theorem dropNull_get {fu ft : List (String × String)} {user time : String} {st : Obj × Option Obj} {d k : Key}
    (h : k ≠ userOf d ∧ k ≠ timeOf d) :
    get (dropNull fu ft user time st d).1 k = if k = d then none else get st.1 k := by
  unfold dropNull
  simp only [apply_ite (get · k), get_set, get_erase, if_neg h.1, if_neg h.2, ite_self]

theorem fold_dropNull_get (fu ft : List (String × String)) (user time : String) (ds : List Key)
    (st : Obj × Option Obj) (k : Key) (h : ∀ d ∈ ds, k ≠ userOf d ∧ k ≠ timeOf d) :
    get (ds.foldl (dropNull fu ft user time) st).1 k = if k ∈ ds then none else get st.1 k := by
  induction ds generalizing st with
  | nil => rfl
  | cons d ds ih =>
    rw [List.foldl_cons, ih _ fun d' hd' => h d' (List.mem_cons_of_mem d hd'), dropNull_get (h d List.mem_cons_self)]
    exact ite_mem_cons k d ds none (get st.1 k)

theorem dropNull_orig (fu ft : List (String × String)) (user time : String) (st : Obj × Option Obj) (d : Key) :
    (dropNull fu ft user time st d).2 = st.2.map (erase · d) := rfl

theorem fold_dropNull_orig (fu ft : List (String × String)) (user time : String) (ds : List Key)
    (st : Obj × Option Obj) :
    (ds.foldl (dropNull fu ft user time) st).2 = st.2.map (ds.foldl erase ·) := by
  induction ds generalizing st with
  | nil => exact Option.map_id'.symm
  | cons d ds ih =>
    rw [List.foldl_cons, ih, dropNull_orig, Option.map_map]
    rfl

theorem fold_dropNull_orig_get (fu ft : List (String × String)) (user time : String) (ds : List Key)
    (nw : Obj) (og : Obj) (f : Key) :
    ∃ og', (ds.foldl (dropNull fu ft user time) (nw, some og)).2 = some og' ∧
      get og' f = if f ∈ ds then none else get og f :=
  ⟨ds.foldl erase og, fold_dropNull_orig fu ft user time ds (nw, some og), fold_erase_get ds og f⟩

theorem stamp_get {user time : String} {deleted newlySet : List Key} {nw : Obj} {g k : Key}
    (h : g.kind = .plain → k ≠ userOf g ∧ k ≠ timeOf g) :
    get (stamp user time deleted newlySet nw g) k = get nw k := by
  unfold stamp
  by_cases hm : isMeta g = true
  · simp only [hm, if_true, ite_self]
  · have h := h (by simpa [isMeta] using hm)
    simp only [apply_ite (get · k), get_set, if_neg h.1, if_neg h.2, ite_self]

theorem fold_stamp_get {user time : String} {deleted newlySet l : List Key} {nw : Obj} {k : Key}
    (h : ∀ g ∈ l, g.kind = .plain → k ≠ userOf g ∧ k ≠ timeOf g) :
    get (l.foldl (stamp user time deleted newlySet) nw) k = get nw k :=
  foldl_fixed (fun nw => get nw k) (fun _ g hg => stamp_get (h g hg)) nw

theorem keepStamps_get {user time : String} {deleted : List Key} {og nw : Obj} {g k : Key}
    (h : k ≠ userOf g ∧ k ≠ timeOf g) : get (keepStamps user time deleted og nw g) k = get nw k := by
  unfold keepStamps
  simp only [apply_ite (get · k), get_set, if_neg h.1, if_neg h.2, ite_self]

theorem carry_get {cond : List Key} {st : Obj × List Key} {p : Key × Val} {f : Key} (hne : f ≠ p.1) :
    get (carry cond st p).1 f = get st.1 f := by
  unfold carry
  simp only [apply_ite Prod.fst, apply_ite (get · f), get_set, if_neg hne, ite_self]

theorem carry_get_self (cond : List Key) (st : Obj × List Key) (p : Key × Val) :
    get (carry cond st p).1 p.1 = if has st.1 p.1 && !cond.contains p.1 then get st.1 p.1 else some p.2 := by
  unfold carry
  simp only [apply_ite Prod.fst, apply_ite (get · p.1), get_set]
  -- an identity between ifs on `has st.1 p.1`, `cond.contains p.1`
  grind

theorem fold_carry_get_absent {cond : List Key} {og : Obj} {st : Obj × List Key} {f : Key} (hf : get og f = none) :
    get (og.foldl (carry cond) st).1 f = get st.1 f :=
  foldl_fixed (fun st => get st.1 f)
    (fun _ p hp => carry_get fun (h : f = p.1) => get_eq_none_iff.1 hf (h ▸ List.mem_map_of_mem hp)) st

theorem fold_carry_get {cond : List Key} {og : Obj} {st : Obj × List Key} {k : Key} (hnd : (keys og).Nodup) :
    get (og.foldl (carry cond) st).1 k =
      if has st.1 k && !cond.contains k then get st.1 k else (get og k).or (get st.1 k) := by
  induction og generalizing st with
  | nil => exact (ite_self _).symm
  | cons p ps ih =>
    rw [keys_cons, List.nodup_cons] at hnd
    rw [List.foldl_cons, get_cons]
    by_cases hp : p.1 = k
    · subst hp
      rw [fold_carry_get_absent (get_eq_none_iff.2 hnd.1), carry_get_self, if_pos rfl]
      rfl
    · rw [ih hnd.2, has_eq_get (carry cond st p).1, carry_get (Ne.symm hp), ← has_eq_get, if_neg hp]

theorem carry_newly_subset {cond : List Key} {st : Obj × List Key} {p : Key × Val} {x : Key}
    (h : x ∈ (carry cond st p).2) : x ∈ st.2 := by
  unfold carry at h
  split at h
  · exact h
  · split at h
    · exact (List.mem_filter.1 h).1
    · exact h

theorem fold_carry_newly_subset {cond : List Key} {og : Obj} {st : Obj × List Key} {x : Key}
    (h : x ∈ (og.foldl (carry cond) st).2) : x ∈ st.2 :=
  List.foldlRecOn (motive := fun st' => x ∈ st'.2 → x ∈ st.2) og (carry cond) id
    (fun _ ih _ _ h => ih (carry_newly_subset h)) h

/-- the list `deleted` of `updateJSON` -/
def nulls (new : Obj) : List Key := (new.filter (·.2 == .null)).map (·.1)

theorem mem_nulls {new : Obj} {d : Key} : d ∈ nulls new ↔ (d, Val.null) ∈ new := by
  unfold nulls
  simp only [List.mem_map, List.mem_filter, beq_iff_eq]
  constructor
  · rintro ⟨⟨_, _⟩, ⟨hq, rfl⟩, rfl⟩
    exact hq
  · intro h
    exact ⟨(d, .null), ⟨h, rfl⟩, rfl⟩

theorem updateJSON_partial (og new : Obj) (user time : String) (cond : List Key) :
    updateJSON (some og) new user time cond false =
      let nw := ((nulls new).foldl (dropNull (explicitStamps new .user) (explicitStamps new .time) user time)
        (new, some og)).1
      let og' := (nulls new).foldl erase og
      let r := og'.foldl (carry cond)
        (nw, (keys nw).filter fun f => !has og' f || isMeta f || get nw f != get og' f)
      r.2.foldl (stamp user time (nulls new) r.2) r.1 := by
  unfold updateJSON
  simp only [fold_dropNull_orig]
  rfl

theorem updateJSON_partial_get_plain {og new : Obj} {user time : String} {cond : List Key} {f : Key}
    (hf : f.kind = .plain) (hnd : (keys og).Nodup) :
    get (updateJSON (some og) new user time cond false) f =
      if f ∈ nulls new then none
      else if has new f && !cond.contains f then get new f else (get og f).or (get new f) := by
  rw [updateJSON_partial]
  dsimp only
  rw [fold_stamp_get fun g _ _ => plain_ne_stamps hf g, fold_carry_get (fold_erase_keys_nodup _ hnd)]
  dsimp only
  rw [has_eq_get, fold_dropNull_get _ _ _ _ _ _ _ fun d _ => plain_ne_stamps hf d, fold_erase_get]
  by_cases hdel : f ∈ nulls new
  · simp only [if_pos hdel]
    rfl
  · simp only [if_neg hdel, has_eq_get]

end Dvid.NJ
