import DvidModel.Model.Resolve
/- One level of `invalidate` and of `findMatchWith` is a congruence (`_succ_congr`): two runs, over other entries or with
   other fuel, agree at `v` if they agree on the entries that level reads and on the recursive calls at the parents of
   `v` (for `findMatchWith` also on `invalidate` at `v`).  Iterated along ancestry it gives locality (`_congr`: entries
   may differ away from `v` and its ancestors); iterated on the fuel under `Dag.WF`, fuel irrelevance (`_fuel`). -/
namespace Dvid.Resolve

inductive Anc (d : Dag) : Nat → Nat → Prop
  | refl (v : Nat) : Anc d v v
  | step {v p a : Nat} : p ∈ d.parents v → Anc d p a → Anc d v a

theorem Anc.trans {d : Dag} {a b c : Nat} (h1 : Anc d a b) (h2 : Anc d b c) : Anc d a c := by
  induction h1 with
  | refl => exact h2
  | step hp _ ih => exact Anc.step hp (ih h2)

theorem invalidate_succ_congr (d : Dag) (es es' : Entries) (n k : Nat) (m : Marks) (v : Nat)
    (hes : ∀ p ∈ d.parents v, es p = es' p)
    (hrec : ∀ p ∈ d.parents v, ∀ m, invalidate d es n m p = invalidate d es' k m p) :
    invalidate d es (n + 1) m v = invalidate d es' (k + 1) m v := by
  simp only [invalidate]
  refine List.foldl_rel (r := Eq) rfl fun p hp acc _ e => ?_
  rw [← e, ← hes p hp, hrec p hp, hrec p hp]  -- `hrec` once per arm of the step: marks `p :: acc`, then `acc`

theorem mergeLoop_congr {fm fm' : Marks → Nat → Res × Marks} {ps : List Nat} (h : ∀ p ∈ ps, ∀ m, fm m p = fm' m p)
    (m : Marks) : mergeLoop fm ps m = mergeLoop fm' ps m := by
  unfold mergeLoop
  refine List.foldl_rel (r := Eq) rfl fun p hp acc _ e => ?_
  unfold mergeStep
  rw [← e, h p hp acc.2]

theorem findMatchWith_succ_congr (pick : List (Nat × Nat) → Marks → Res) (d : Dag) (es es' : Entries)
    (n k : Nat) (m : Marks) (v : Nat) (hv : es v = es' v)
    (hinv : invalidate d es n m v = invalidate d es' k m v)
    (hrec : ∀ p ∈ d.parents v, ∀ m, findMatchWith pick d es n m p = findMatchWith pick d es' k m p) :
    findMatchWith pick d es (n + 1) m v = findMatchWith pick d es' (k + 1) m v := by
  simp only [findMatchWith]
  rw [← hv, hinv]
  cases es v with
  | some e => rfl
  | none =>
    simp only
    split
    · rfl
    next p hp => exact hrec p (hp ▸ List.mem_singleton_self p) m
    · rw [mergeLoop_congr hrec m]  -- merge

theorem invalidate_congr (d : Dag) (es es' : Entries) (fuel : Nat) (m : Marks) (v : Nat)
    (h : ∀ a, Anc d v a → es a = es' a) : invalidate d es fuel m v = invalidate d es' fuel m v := by
  induction fuel generalizing m v with
  | zero => rfl
  | succ n ih =>
    exact invalidate_succ_congr d es es' n n m v (fun p hp => h p (.step hp (.refl p)))
      (fun p hp m => ih m p (fun a ha => h a (.step hp ha)))

/-- **Locality** (C01 `read_locality`), also of the marks left behind: for every fuel, every incoming mark set and every
    post-loop decision function. -/
theorem findMatchWith_congr (pick : List (Nat × Nat) → Marks → Res) (d : Dag) (es es' : Entries)
    (fuel : Nat) (m : Marks) (v : Nat) (h : ∀ a, Anc d v a → es a = es' a) :
    findMatchWith pick d es fuel m v = findMatchWith pick d es' fuel m v := by
  induction fuel generalizing m v with
  | zero => rfl
  | succ n ih =>
    exact findMatchWith_succ_congr pick d es es' n n m v (h v (.refl v)) (invalidate_congr d es es' n m v h)
      (fun p hp m => ih m p (fun a ha => h a (.step hp ha)))

theorem mergeLoop_found (fm : Marks → Nat → Res × Marks) (P : Nat × Nat → Prop) (ps : List Nat) (m : Marks)
    (h : ∀ m p a x m2, p ∈ ps → fm m p = (.found a x, m2) → P (a, x)) :
    ∀ fs, (mergeLoop fm ps m).1 = some fs → ∀ q ∈ fs, P q := by
  refine List.foldlRecOn ps (mergeStep fm) (motive := fun acc => ∀ fs, acc.1 = some fs → ∀ q ∈ fs, P q) ?_ ?_
  · intro fs h0 q hq
    cases h0
    cases hq
  · intro acc hacc p hp fs hfs q hq
    simp only [mergeStep] at hfs
    -- the list grows only where `fm` returns `.found a x`; the other arms keep it or end in `none`
    split at hfs
    · exact hacc fs hfs q hq
    next fs0 h0 =>
      split at hfs
      · cases hfs
      next a x m2 hfm =>
        cases hfs
        exact List.forall_mem_append.2 ⟨hacc fs0 h0, List.forall_mem_singleton.2 (h acc.2 p a x m2 hp hfm)⟩ q hq
      · cases hfs
        exact hacc _ h0 q hq

theorem decide_sound {fs : List (Nat × Nat)} {m : Marks} {a x : Nat} (h : decide fs m = .found a x) : (a, x) ∈ fs := by
  unfold decide at h
  simp only at h
  split at h
  · cases h
  · split at h
    next hl =>
      cases h
      exact List.mem_of_getLast? hl
    · cases h
  · cases h

theorem decideSurvivor_sound {fs : List (Nat × Nat)} {m : Marks} {a x : Nat} (h : decideSurvivor fs m = .found a x) :
    (a, x) ∈ fs := by
  unfold decideSurvivor at h
  simp only at h
  split at h
  · cases h
  · split at h
    next hl =>
      cases h
      exact (List.mem_filter.mp (List.mem_of_find?_eq_some hl)).1
    · cases h
  · cases h

theorem pickCur_sound {fs : List (Nat × Nat)} {m : Marks} {a x : Nat} (h : pickCur fs m = .found a x) : (a, x) ∈ fs := by
  unfold pickCur at h
  split at h
  · exact decideSurvivor_sound h
  · exact decide_sound h

/-- **Soundness** (C01 `read_sound`), for every post-loop decision that returns one of the matches collected. -/
theorem findMatchWith_sound (pick : List (Nat × Nat) → Marks → Res)
    (hpick : ∀ {fs m a x}, pick fs m = .found a x → (a, x) ∈ fs)
    (d : Dag) (es : Entries) (fuel : Nat) (m : Marks) (v a x : Nat) (m' : Marks)
    (h : findMatchWith pick d es fuel m v = (.found a x, m')) : es a = some (.val x) ∧ Anc d v a := by
  induction fuel generalizing m v m' a x with
  | zero => cases h
  | succ n ih =>
    simp only [findMatchWith] at h
    split at h
    next e hv =>  -- an entry at `v`: the match is `v` itself
      split at h
      · cases h
      · cases e with
        | tomb => cases h
        | val y =>
          cases h
          exact ⟨hv, .refl v⟩
    · split at h
      · cases h  -- no parent
      next p hp =>  -- one parent: its match, one step further up
        obtain ⟨hes, hanc⟩ := ih m p a x m' h
        exact ⟨hes, .step (hp ▸ List.mem_singleton_self p) hanc⟩
      · split at h  -- merge
        · cases h
        next fs hfs =>
          -- the decision picks one of the collected matches, and each of those came from a parent
          exact mergeLoop_found (findMatchWith pick d es n) (fun q => es q.1 = some (.val q.2) ∧ Anc d v q.1)
            (d.parents v) m (fun m0 p a0 x0 m2 hp hf => (ih m0 p a0 x0 m2 hf).imp_right (.step hp))
            fs hfs (a, x) (hpick (Prod.mk.inj h).1)

theorem invalidate_version_zero (d : Dag) (hwf : d.WF) (es : Entries) (f : Nat) (m : Marks) :
    invalidate d es f m 0 = m := by
  cases f with
  | zero => rfl
  | succ k =>
    have : d.parents 0 = [] := List.eq_nil_iff_forall_not_mem.mpr fun p hp => Nat.not_lt_zero p (hwf 0 p hp)
    simp [invalidate, this]

theorem invalidate_fuel (d : Dag) (hwf : d.WF) (es : Entries) (f1 f2 : Nat) (m : Marks) (v : Nat)
    (h1 : v ≤ f1) (h2 : v ≤ f2) : invalidate d es f1 m v = invalidate d es f2 m v := by
  induction f1 generalizing f2 m v with
  | zero => rw [Nat.le_zero.mp h1, invalidate_version_zero d hwf, invalidate_version_zero d hwf]
  | succ n ih =>
    cases f2 with
    | zero => rw [Nat.le_zero.mp h2, invalidate_version_zero d hwf, invalidate_version_zero d hwf]
    | succ k =>
      apply invalidate_succ_congr d es es n k m v (fun _ _ => rfl)
      intro p hp m
      have hpv := hwf v p hp
      exact ih k m p (by omega) (by omega)

/-- **Fuel is irrelevant** (C01 `fuel_irrelevant`): where every parent id is below its child's, any two fuels above `v`
    give the same result and the same marks at `v`; `readAt` uses `v + 1`. -/
theorem findMatchWith_fuel (pick : List (Nat × Nat) → Marks → Res) (d : Dag) (hwf : d.WF) (es : Entries)
    (f1 f2 : Nat) (m : Marks) (v : Nat) (h1 : v < f1) (h2 : v < f2) :
    findMatchWith pick d es f1 m v = findMatchWith pick d es f2 m v := by
  induction f1 generalizing f2 m v with
  | zero => omega
  | succ n ih =>
    cases f2 with
    | zero => omega
    | succ k =>
      apply findMatchWith_succ_congr pick d es es n k m v rfl (invalidate_fuel d hwf es n k m v (by omega) (by omega))
      intro p hp m
      have hpv := hwf v p hp
      exact ih k m p (by omega) (by omega)

/-- going up from `v` from only parent to only parent, the first entry met: its value, `.none` if it is a tombstone or a
    root or merge comes first (`.err` only out of fuel) -/
def nearest (d : Dag) (es : Entries) : Nat → Nat → Res
  | 0, _ => .err
  | fuel + 1, v =>
    match es v with
    | some (.val x) => .found v x
    | some .tomb => .none
    | none =>
      match d.parents v with
      | [p] => nearest d es fuel p
      | _ => .none

def Linear (d : Dag) (v : Nat) : Prop := ∀ a, Anc d v a → (d.parents a).length ≤ 1

theorem findMatchWith_linear (pick : List (Nat × Nat) → Marks → Res) (d : Dag) (es : Entries)
    (fuel : Nat) (v : Nat) (hl : Linear d v) :
    (findMatchWith pick d es fuel [] v).1 = nearest d es fuel v := by
  induction fuel generalizing v with
  | zero => rfl
  | succ n ih =>
    simp only [findMatchWith, nearest]
    cases hv : es v with
    | some e => cases e <;> simp
    | none =>
      match hps : d.parents v, hl v (.refl v) with
      | [], _ => rfl
      | [p], _ => exact ih p (fun a ha => hl a (.step (hps ▸ List.mem_singleton_self p) ha))
      | _ :: _ :: _, hlen => exact absurd hlen (by simp)

end Dvid.Resolve
