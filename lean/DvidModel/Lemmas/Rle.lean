import DvidModel.Model.Rle
import DvidModel.Lemmas.Bytes
/-
  A run list is its voxel set `voxOf`; a run is a row `(y, z)` and an interval of x (`within_iff`), so what an
  operation does to the voxels is linear arithmetic on that interval.  Marshalled, a run is four `le32i` fields in
  a row: the round trip of a list is the round trip of one field (`le32i_roundtrip`).
-/
namespace Dvid.Rle
open Dvid Dvid.Geom

theorem within_iff (r : RLE) (p : Pos) :
    r.within p = true ↔ p.2.2 = r.z ∧ p.2.1 = r.y ∧ r.x ≤ p.1 ∧ p.1 < r.x + r.len := by
  simp [RLE.within, and_assoc]

theorem within_empty {r : RLE} (h : r.len ≤ 0) (p : Pos) : r.within p = false := by
  rw [← Bool.not_eq_true, within_iff]
  omega

theorem voxOf_cons (r : RLE) (rs : List RLE) (p : Pos) : voxOf (r :: rs) p = (r.within p || voxOf rs p) := rfl

theorem voxOf_append (a b : List RLE) (p : Pos) : voxOf (a ++ b) p = (voxOf a p || voxOf b p) :=
  List.any_append

theorem voxOf_flatMap {α : Type} (l : List α) (f : α → List RLE) (p : Pos) :
    voxOf (l.flatMap f) p = l.any (fun a => voxOf (f a) p) := List.any_flatMap

/-- an optional fragment, as `Excise` puts its result together -/
theorem voxOf_ite (c : Prop) [Decidable c] (r : RLE) (p : Pos) :
    voxOf (if c then [r] else []) p = true ↔ c ∧ r.within p = true := by
  split <;> simp [voxOf, *]

/-! ### binary marshalling -/

theorem le32i_roundtrip {c : Int} (h : I32 c) (rest : Bytes) : fromLe32i (le32i c ++ rest) = c := by
  unfold I32 at h
  -- the four bytes are the digits of `c mod 2^32`; what is left is the sign
  show (if _ ≥ 2147483648 then _ else _) = c
  rw [le32_digits (by omega)]
  split <;> omega

theorem marshal_cons (r : RLE) (rs : List RLE) :
    marshal (r :: rs) = le32i r.x ++ (le32i r.y ++ (le32i r.z ++ (le32i r.len ++ marshal rs))) := by
  simp only [marshal, List.flatMap_cons, List.append_assoc]

theorem marshal_length (rs : List RLE) : (marshal rs).length = 16 * rs.length := by
  induction rs with
  | nil => rfl
  | cons r rs ih =>
    rw [marshal_cons]
    show (marshal rs).length + 16 = _
    rw [ih, List.length_cons, Nat.mul_succ]

theorem unmarshalAux_length (n : Nat) (b : Bytes) : (unmarshalAux n b).length = n := by
  induction n generalizing b with
  | zero => rfl
  | succ n ih => simp [unmarshalAux, ih]

theorem unmarshalAux_marshal (rs : List RLE) (h : ∀ r ∈ rs, I32 r.x ∧ I32 r.y ∧ I32 r.z ∧ I32 r.len) :
    unmarshalAux rs.length (marshal rs) = rs := by
  induction rs with
  | nil => rfl
  | cons r rs ih =>
    obtain ⟨hx, hy, hz, hl⟩ := h r (List.mem_cons_self ..)
    rw [marshal_cons]
    -- `unmarshalAux` finds the fields with `drop`, which computes on the four `le32i` in a row
    show RLE.mk (fromLe32i (le32i r.x ++ _)) (fromLe32i (le32i r.y ++ _)) (fromLe32i (le32i r.z ++ _))
      (fromLe32i (le32i r.len ++ _)) :: unmarshalAux rs.length (marshal rs) = _
    rw [le32i_roundtrip hx, le32i_roundtrip hy, le32i_roundtrip hz, le32i_roundtrip hl,
      ih fun r' h' => h r' (List.mem_cons_of_mem _ h')]

end Dvid.Rle
