import DvidModel.Model.LabelIndex
/-
  An index is its count function `cnt`: the equations of `cnt` over what the index operations are built from
  (`++`, `filter`, `flatMap`, `if`) turn a statement about indices into pointwise integer arithmetic.
-/
namespace Dvid.LabelIndex

example : cnt [((1, 7), 5), ((1, 8), 2), ((1, 7), -3)] (1, 7) = 2 := by decide

@[simp] theorem cnt_nil (k : Key) : cnt [] k = 0 := rfl

theorem cnt_cons (e : Key × Int) (a : Index) (k : Key) :
    cnt (e :: a) k = (if e.1 = k then e.2 else 0) + cnt a k := by
  unfold cnt
  rw [List.filter_cons]
  by_cases h : e.1 = k
  · rw [if_pos (beq_iff_eq.mpr h), if_pos h, List.map_cons, List.sum_cons]
  · rw [if_neg (mt beq_iff_eq.mp h), if_neg h, Int.zero_add]

theorem cnt_append (a b : Index) (k : Key) : cnt (a ++ b) k = cnt a k + cnt b k := by
  unfold cnt
  rw [List.filter_append, List.map_append, List.sum_append]

theorem cnt_ite (c : Prop) [Decidable c] (a b : Index) (k : Key) :
    cnt (if c then a else b) k = if c then cnt a k else cnt b k := by
  split <;> rfl

theorem cnt_filter (idx : Index) (p : Key → Bool) (k : Key) :
    cnt (idx.filter fun e => p e.1) k = if p k then cnt idx k else 0 := by
  unfold cnt
  -- an entry of key `k` passes `p` exactly if `k` does
  rw [List.filter_filter, List.filter_congr (q := fun e => p k && e.1 == k) fun e _ => ?_]
  · cases p k
    · exact congrArg (fun l : Index => (l.map (·.2)).sum) (List.filter_eq_nil_iff.2 fun _ _ => Bool.false_ne_true)
    · rfl
  · by_cases hk : e.1 = k
    · rw [hk, Bool.and_comm]
    · rw [beq_false_of_ne hk, Bool.false_and, Bool.and_false]

theorem cnt_flatMap {α : Type} (l : List α) (f : α → Index) (k : Key) :
    cnt (l.flatMap f) k = (l.map fun x => cnt (f x) k).sum := by
  induction l with
  | nil => rfl
  | cons x xs ih => rw [List.flatMap_cons, cnt_append, ih, List.map_cons, List.sum_cons]

/-- the sum `cnt_flatMap` leaves when only the summand of `m = x` is not zero -/
theorem sum_indicator (ms : List Nat) (hnd : ms.Nodup) (x : Nat) (o : Int) :
    (ms.map fun m => if x = m then o else 0).sum = if x ∈ ms then o else 0 := by
  induction ms with
  | nil => rfl
  | cons m rest ih =>
    rw [List.nodup_cons] at hnd
    rw [List.map_cons, List.sum_cons, ih hnd.2]
    by_cases h : x = m
    · subst h
      rw [if_pos rfl, if_neg hnd.1, if_pos List.mem_cons_self, Int.add_zero]
    · rw [if_neg h, Int.zero_add]
      simp only [List.mem_cons, h, false_or]

theorem nodup_eraseDups {α : Type} [BEq α] [LawfulBEq α] : ∀ l : List α, l.eraseDups.Nodup
  | [] => List.nodup_nil
  | a :: t => by
    rw [List.eraseDups_cons]
    refine List.nodup_cons.2 ⟨fun h => ?_, nodup_eraseDups _⟩
    simpa using List.mem_eraseDups.1 h
termination_by l => l.length
decreasing_by exact Nat.lt_succ_of_le (List.length_filter_le _ _)

theorem cleave_cnt (idx : Index) (svs : List Nat) (k : Key) :
    cnt (cleave idx svs).1 k = (if svs.contains k.2 then 0 else cnt idx k) ∧
    cnt (cleave idx svs).2.1 k = (if svs.contains k.2 then cnt idx k else 0) := by
  refine ⟨(cnt_filter idx (fun k => !svs.contains k.2) k).trans ?_, cnt_filter idx (fun k => svs.contains k.2) k⟩
  cases svs.contains k.2 <;> rfl

theorem numVoxels_filter_split (idx : Index) (p : Key × Int → Bool) :
    numVoxels (idx.filter p) + numVoxels (idx.filter fun e => !p e) = numVoxels idx := by
  unfold numVoxels
  induction idx with
  | nil => rfl
  | cons e rest ih =>
    rw [List.filter_cons, List.filter_cons, List.map_cons, List.sum_cons, ← ih]
    cases p e
    · exact Int.add_left_comm _ _ _
    · exact Int.add_assoc _ _ _

end Dvid.LabelIndex
