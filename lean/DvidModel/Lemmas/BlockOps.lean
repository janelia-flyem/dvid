import DvidModel.Lemmas.Block
import DvidModel.Lemmas.List
/- Lemmas behind C10.  The down-sampling vote: `tally` as a count table, `pickWinner` as a maximum. -/
namespace Dvid.Block

theorem decode_map (b b' : Block) (f : Nat → Nat) (hg : b'.gx = b.gx ∧ b'.gy = b.gy ∧ b'.gz = b.gz)
    (h : ∀ x y z, x < 8 * b.gx → y < 8 * b.gy → z < 8 * b.gz →
      voxLabel b' (startsArr b'.numSB) x y z = f (voxLabel b (startsArr b.numSB) x y z)) :
    decode b' = (decode b).map f := by
  obtain ⟨h1, h2, h3⟩ := hg
  have hn : nvox b' = nvox b := by rw [nvox, nvox, h1, h2, h3]
  apply Array.ext
  · rw [Array.size_map, size_decode, size_decode, hn]
  · intro i hi _
    obtain ⟨hx, hy, hz⟩ := unlin_lt (8 * b.gx) (8 * b.gy) (8 * b.gz) i (by rwa [← nvox, ← hn, ← size_decode])
    rw [Array.getElem_map, decode_getElem, decode_getElem, h1, h2]
    exact h _ _ _ hx hy hz

theorem getD_map_lt (a : Array Nat) (g : Nat → Nat) (j : Nat) (hj : j < a.size) :
    (a.map g).getD j 0 = g (a.getD j 0) := by
  simp [Array.getD_eq_getD_getElem?, hj]

/-- the slot a voxel selects does not depend on the label table -/
theorem labelSB_relabel (b : Block) (g : Nat → Nat) (st : Nat × Nat) (n i : Nat) (hn : 1 ≤ n)
    (hj : b.sbIdx.getD (slotAt b st n i) 0 < b.labels.size) :
    labelSB { b with labels := b.labels.map g } st n i = g (labelSB b st n i) := by
  simp only [labelSB, show n ≠ 0 by omega, if_false, labelOfPos]
  exact getD_map_lt b.labels g _ hj

theorem voxLabel_relabel (b : Block) (g : Nat → Nat) (h : wfBlock b = true)
    (x y z : Nat) (hx : x < 8 * b.gx) (hy : y < 8 * b.gy) (hz : z < 8 * b.gz) :
    voxLabel { b with labels := b.labels.map g } (startsArr b.numSB) x y z = g (voxLabel b (startsArr b.numSB) x y z) := by
  rcases wfBlock_cases b h with h1 | ⟨h2, hw⟩
  · simp only [voxLabel, Array.size_map, h1, show (1 : Nat) < 2 by omega, if_true]
    exact getD_map_lt b.labels g 0 (by omega)
  · obtain ⟨hsz, hsb, hidx⟩ := wf_spec b hw
    have hk : sbNum b x y z < b.numSB.size := hsz ▸ sbNum_lt b x y z hx hy hz
    obtain ⟨hn, hle, hslot⟩ := hsb _ hk
    rw [voxLabel_multi b h2 x y z hk]
    refine (voxLabel_multi { b with labels := b.labels.map g } (by rwa [Array.size_map]) x y z hk).trans ?_
    exact labelSB_relabel b g _ _ _ hn (hidx _ (Nat.lt_of_lt_of_le (hslot _ (sbVox_lt x y z)) hle))

theorem lastIdx_fold_none (t : Nat) (l : List (Nat × Nat)) (acc : Option Nat) :
    l.foldl (fun acc p => if p.1 = t then some p.2 else acc) acc = none → acc = none ∧ ∀ p ∈ l, p.1 ≠ t := by
  induction l generalizing acc with
  | nil => exact fun h => ⟨h, fun _ hp => nomatch hp⟩
  | cons p ps ih =>
    intro h
    simp only [List.foldl_cons] at h
    obtain ⟨ha, hps⟩ := ih _ h
    by_cases hp : p.1 = t
    · rw [if_pos hp] at ha
      cases ha
    · rw [if_neg hp] at ha
      exact ⟨ha, List.forall_mem_cons.2 ⟨hp, hps⟩⟩

theorem lastIdx_none (l : List Nat) (t : Nat) (h : lastIdx l t = none) : t ∉ l := by
  intro hm
  obtain ⟨i, hi, rfl⟩ := List.getElem_of_mem hm
  exact (lastIdx_fold_none _ _ none h).2 (l[i], i) (by simp [List.mem_zipIdx_iff_getElem?]) rfl

theorem sbList_getD (b : Block) (st : Nat × Nat) (n j : Nat) (hj : j < n) (d : Nat) :
    (sbList b st n).getD j d = b.sbIdx.getD (st.1 + j) 0 := by
  unfold sbList
  simp [List.getD_eq_getElem?_getD, hj]

theorem countP_const {α : Type} (p : Bool) (l : List α) : l.countP (fun _ => p) = if p then l.length else 0 := by
  cases p <;> simp

theorem getD_ne_of_not_mem (l : List Nat) (t j d : Nat) (hd : d ≠ t) (h : t ∉ l) : l.getD j d ≠ t := by
  rw [List.getD_eq_getElem?_getD]
  cases hj : l[j]? with
  | none => exact hd
  | some v => exact fun e => h (e ▸ List.mem_of_getElem? hj)

/-- Rests on two shapes of the Go loop: a sub-block not listing `t` still advances the bit position
    (`Gen.numVoxAdvancesOnMiss`); one listing `t` more than once is counted through every listing
    (`Gen.numVoxCountsEveryListing`). -/
theorem numVoxStep_spec (b : Block) (t : Nat) (st : Nat × Nat) (acc n : Nat)
    (hok : 2 ≤ n → ∀ i, i < 512 → slotAt b st n i < st.1 + n) :
    numVoxStep b t ⟨st, acc⟩ n = ⟨sbAdvance st n, acc + slotCountSB b t st n⟩ := by
  unfold numVoxStep sbAdvance slotCountSB
  by_cases h0 : n = 0
  · subst h0
    simp
  by_cases h1 : n = 1
  · subst h1
    simp only [Nat.one_ne_zero, ↓reduceIte, Nat.lt_irrefl, slotAt, Nat.le_refl, countP_const, List.length_range,
      beq_iff_eq]
  have hle : ¬ n ≤ 1 := by omega
  simp only [h0, h1, ↓reduceIte, show n > 1 by omega]
  -- the reference count reads the table through the sub-block's own list, as `countListed` does; `hok` keeps the packed
  -- index inside that list
  have hcl : (List.range 512).countP (fun i => b.sbIdx.getD (slotAt b st n i) 0 == t) =
      countListed b st.2 (bitsFor n) (sbList b st n) t := by
    apply List.countP_congr
    intro i hi
    have hlt := hok (by omega) i (List.mem_range.1 hi)
    simp only [slotAt, hle, ↓reduceIte] at hlt ⊢
    rw [sbList_getD b st n _ (by omega)]
  rw [hcl]
  cases hl : lastIdx (sbList b st n) t with
  | none =>
    have : countListed b st.2 (bitsFor n) (sbList b st n) t = 0 :=
      List.countP_eq_zero.2 fun i _ => by simpa using getD_ne_of_not_mem _ t _ _ (Nat.succ_ne_self t) (lastIdx_none _ _ hl)
    simp [this, Gen.numVoxAdvancesOnMiss]
  | some j => simp [Gen.numVoxCountsEveryListing]

/-- At `st = (0, 0)` the running position is `sbStart l k` and `hok` is what `wf_spec` gives. -/
theorem fold_numVoxStep (b : Block) (t : Nat) (l : List Nat) (st : Nat × Nat) (acc : Nat)
    (hok : ∀ k (hk : k < l.length), 2 ≤ l[k] → ∀ i, i < 512 →
      slotAt b ((l.take k).foldl sbAdvance st) l[k] i < ((l.take k).foldl sbAdvance st).1 + l[k]) :
    (l.foldl (numVoxStep b t) ⟨st, acc⟩).acc = acc + slotCountFrom b t st l := by
  induction l generalizing st acc with
  | nil => rfl
  | cons n ns ih =>
    rw [List.foldl_cons, numVoxStep_spec b t st acc n (hok 0 (Nat.zero_lt_succ _)),
      ih _ _ (fun k hk => hok (k + 1) (Nat.succ_lt_succ hk)), slotCountFrom, Nat.add_assoc]

/-- `w` beats or ties `p` (reflexive): more votes, or as many and not the larger label -/
def Beats (w p : Nat × Nat) : Prop := p.2 < w.2 ∨ (p.2 = w.2 ∧ w.1 ≤ p.1)

/-- the body of the winner loop -/
def better (w p : Nat × Nat) : Nat × Nat :=
  if w.2 < p.2 then p else if w.2 = p.2 ∧ p.1 < w.1 then p else w

theorem pickWinner_eq (m : List (Nat × Nat)) : pickWinner m = m.foldl better (0, 0) := rfl

theorem Beats.trans {a b c : Nat × Nat} (h1 : Beats a b) (h2 : Beats b c) : Beats a c := by
  unfold Beats at *
  omega

theorem Beats.antisymm {a b : Nat × Nat} (h1 : Beats a b) (h2 : Beats b a) : a = b := by
  unfold Beats at *
  exact Prod.ext (by omega) (by omega)

theorem better_spec (w p : Nat × Nat) : (better w p = w ∨ better w p = p) ∧ Beats (better w p) w ∧ Beats (better w p) p := by
  unfold better Beats
  split
  · exact ⟨Or.inr rfl, by omega, by omega⟩
  · split
    · exact ⟨Or.inr rfl, by omega, by omega⟩
    · exact ⟨Or.inl rfl, by omega, by omega⟩

theorem fold_better (l : List (Nat × Nat)) (w : Nat × Nat) :
    l.foldl better w ∈ w :: l ∧ ∀ p ∈ w :: l, Beats (l.foldl better w) p := by
  induction l generalizing w with
  | nil => exact ⟨List.mem_singleton.2 rfl, fun p hp => List.mem_singleton.1 hp ▸ Or.inr ⟨rfl, Nat.le_refl _⟩⟩
  | cons q qs ih =>
    obtain ⟨hm, hall⟩ := ih (better w q)
    obtain ⟨hc, bw, bq⟩ := better_spec w q
    rw [List.forall_mem_cons] at hall
    rw [List.foldl_cons, List.forall_mem_cons, List.forall_mem_cons, List.mem_cons, List.mem_cons]
    refine ⟨?_, hall.1.trans bw, hall.1.trans bq, hall.2⟩
    rcases List.mem_cons.1 hm with h | h
    · rcases hc with h' | h'
      · exact Or.inl (h.trans h')
      · exact Or.inr (Or.inl (h.trans h'))
    · exact Or.inr (Or.inr h)

def ins (m : List (Nat × Nat)) (l : Nat) : List (Nat × Nat) :=
  if l = 0 then m else
    match m.find? (·.1 == l) with
    | some _ => m.map fun p => if p.1 == l then (p.1, p.2 + 1) else p
    | none => m ++ [(l, 1)]

theorem tally_eq (ls : List Nat) : tally ls = ls.foldl ins [] := rfl

/-- the vote map `m` after the labels `seen` -/
structure TallyInv (m : List (Nat × Nat)) (seen : List Nat) : Prop where
  nodup : (m.map (·.1)).Nodup
  entries : ∀ p ∈ m, p.1 ≠ 0 ∧ p.2 = seen.count p.1 ∧ 1 ≤ p.2
  complete : ∀ l ∈ seen, l ≠ 0 → l ∈ m.map (·.1)

theorem ins_eq (m : List (Nat × Nat)) (x : Nat) (hx : x ≠ 0) :
    ins m x = if x ∈ m.map (·.1) then m.map fun p => if p.1 == x then (p.1, p.2 + 1) else p else m ++ [(x, 1)] := by
  rw [ins, if_neg hx]
  cases hf : m.find? (·.1 == x) with
  | some q =>
    have : q.1 = x := by simpa using List.find?_some hf
    rw [if_pos (List.mem_map.2 ⟨q, List.mem_of_find?_eq_some hf, this⟩)]
  | none =>
    have hx' : x ∉ m.map (·.1) := by
      intro h
      obtain ⟨p, hp, hpx⟩ := List.mem_map.1 h
      simpa [hpx] using List.find?_eq_none.1 hf p hp
    rw [if_neg hx']

theorem count_snoc (l : List Nat) (x a : Nat) : (l ++ [x]).count a = l.count a + if x = a then 1 else 0 := by
  rw [List.count_append, List.count_singleton]
  simp only [beq_iff_eq]

theorem ins_inv (m : List (Nat × Nat)) (seen : List Nat) (x : Nat) (h : TallyInv m seen) :
    TallyInv (ins m x) (seen ++ [x]) := by
  have keep : ∀ p ∈ m, p.1 ≠ x → p.1 ≠ 0 ∧ p.2 = (seen ++ [x]).count p.1 ∧ 1 ≤ p.2 := fun p hp hne => by
    rw [count_snoc, if_neg (Ne.symm hne)]
    exact h.entries p hp
  have old : ∀ l ∈ seen ++ [x], l ≠ 0 → l ≠ x → l ∈ m.map (·.1) := fun l hl hl0 hne =>
    h.complete l ((List.mem_append.1 hl).resolve_right fun e => hne (List.mem_singleton.1 e)) hl0
  by_cases hx : x = 0
  · subst hx  -- `ins m 0` is `m`
    exact ⟨h.nodup, fun p hp => keep p hp (h.entries p hp).1, fun l hl hl0 => old l hl hl0 hl0⟩
  rw [ins_eq m x hx]
  by_cases hm : x ∈ m.map (·.1)
  · rw [if_pos hm]
    have hkeys : (m.map fun p => if p.1 == x then (p.1, p.2 + 1) else p).map (·.1) = m.map (·.1) := by
      rw [List.map_map]
      exact List.map_congr_left fun p _ => by simp only [Function.comp]; split <;> rfl
    refine ⟨hkeys ▸ h.nodup, fun p hp => ?_, fun l hl hl0 => hkeys ▸ ?_⟩
    · obtain ⟨q, hq, rfl⟩ := List.mem_map.1 hp
      by_cases he : q.1 = x
      · obtain ⟨_, hcnt, _⟩ := h.entries q hq
        simp only [he, beq_self_eq_true, if_true, count_snoc]
        exact ⟨hx, by rw [← he, ← hcnt], by omega⟩
      · rw [if_neg (by simpa using he)]
        exact keep q hq he
    · by_cases hlx : l = x
      · exact hlx ▸ hm
      · exact old l hl hl0 hlx
  · rw [if_neg hm]
    refine ⟨?_, List.forall_mem_append.2 ⟨fun p hp => keep p hp fun e => hm (e ▸ List.mem_map_of_mem hp),
      List.forall_mem_singleton.2 ?_⟩, fun l hl hl0 => ?_⟩
    · rw [List.map_append]
      exact nodup_snoc.2 ⟨h.nodup, hm⟩
    · rw [count_snoc, if_pos rfl, List.count_eq_zero.2 fun hs => hm (h.complete x hs hx)]
      exact ⟨hx, rfl, Nat.le_refl 1⟩
    · rw [List.map_append]
      by_cases hlx : l = x
      · simp [hlx]
      · exact List.mem_append_left _ (old l hl hl0 hlx)

theorem fold_ins_inv (suf : List Nat) (m : List (Nat × Nat)) (seen : List Nat) (h : TallyInv m seen) :
    TallyInv (suf.foldl ins m) (seen ++ suf) := by
  induction suf generalizing m seen with
  | nil => simpa using h
  | cons x xs ih => simpa using ih (ins m x) (seen ++ [x]) (ins_inv m seen x h)

theorem tally_inv (ls : List Nat) : TallyInv (tally ls) ls := by
  simpa [tally_eq] using fold_ins_inv ls [] [] ⟨by simp, by simp, by simp⟩

end Dvid.Block
