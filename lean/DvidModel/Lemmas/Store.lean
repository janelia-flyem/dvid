import DvidModel.Model.Store
import DvidModel.Lemmas.Key
/- The two keys of a versioned datum: what `entryAt` reads off them, what `putV`/`delV` leave under them (`_own`) and
   under every other key (`_other`).  The transaction shapes are the regenerated facts `Gen.storePutClearsTombstone` and
   `Gen.storeDeleteWritesTombstone` of `Gen/Resolver`.  Reads through the DAG (`getV_*`) are in Props/C01. -/
namespace Dvid.Store
open Dvid.Key

theorem entryAt_tomb {s : KV} {i ver : Nat} {tk x : Bytes} (ht : s (dataKey i ver 0 tk true) = some x) :
    entryAt s i tk ver = some .tomb := by
  rw [entryAt, ht]
  rfl

theorem entryAt_val {s : KV} {i ver : Nat} {tk x : Bytes} (ht : s (dataKey i ver 0 tk true) = none)
    (hx : s (dataKey i ver 0 tk false) = some x) : entryAt s i tk ver = some (.val ver) := by
  rw [entryAt, ht, hx]
  rfl

theorem putV_own (s : KV) (i ver : Nat) (tk val : Bytes) (m : Bool) :
    putV s i ver tk val (dataKey i ver 0 tk m) = if m then none else some val := by
  cases m <;> simp [putV, Gen.storePutClearsTombstone, KV.set, KV.del, dataKey_marker_ne]

theorem delV_own (s : KV) (i ver : Nat) (tk : Bytes) (m : Bool) :
    delV s i ver tk (dataKey i ver 0 tk m) = if m then some [] else none := by
  cases m <;> simp [delV, Gen.storeDeleteWritesTombstone, KV.set, KV.del, dataKey_marker_ne]

theorem putV_other (s : KV) (i ver : Nat) (tk val k : Bytes)
    (h0 : k ≠ dataKey i ver 0 tk false) (h1 : k ≠ dataKey i ver 0 tk true) : putV s i ver tk val k = s k := by
  simp [putV, Gen.storePutClearsTombstone, KV.set, KV.del, h0, h1]

theorem delV_other (s : KV) (i ver : Nat) (tk k : Bytes)
    (h0 : k ≠ dataKey i ver 0 tk false) (h1 : k ≠ dataKey i ver 0 tk true) : delV s i ver tk k = s k := by
  simp [delV, Gen.storeDeleteWritesTombstone, KV.set, KV.del, h0, h1]

end Dvid.Store
