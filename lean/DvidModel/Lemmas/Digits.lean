/- Positional notation on `Nat`: a number below `n * B` is a digit below `B` under a digit below `n`.  Byte fields
   (Lemmas/Bytes), the row-major voxel index (Lemmas/Block) and the packed block index (C18) are written, read and
   compared digit by digit.  (On `Int`, with floor division: `InBlock`, `digit_unique` in Lemmas/ImageBlk.) -/
namespace Dvid

theorem unpack {B x : Nat} (h : x < B) (a : Nat) : (a * B + x) / B = a ∧ (a * B + x) % B = x :=
  (Nat.div_mod_unique (Nat.zero_lt_of_lt h)).2 ⟨by rw [Nat.mul_comm, Nat.add_comm], h⟩

theorem pack_lt {B x n a : Nat} (hx : x < B) (ha : a < n) : a * B + x < n * B :=
  Nat.lt_of_lt_of_le (Nat.add_lt_add_left hx _) (Nat.succ_mul a B ▸ Nat.mul_le_mul_right B ha)

theorem le_digit (m n x : Nat) : x % m + x / m % n * m = x % (m * n) := by
  rw [Nat.mod_mul, Nat.mul_comm]

theorem be_digit (m n x : Nat) : x / m % n * m + x % m = x % (m * n) := by
  rw [Nat.add_comm, le_digit]

theorem cmp_digit (m n x y : Nat) (c : Ordering) :
    (if x / m % n < y / m % n then Ordering.lt else if y / m % n < x / m % n then .gt else
      if x % m < y % m then .lt else if y % m < x % m then .gt else c) =
    if x % (m * n) < y % (m * n) then .lt else if y % (m * n) < x % (m * n) then .gt else c := by
  rcases Nat.eq_zero_or_pos m with rfl | hm
  · simp
  rw [← be_digit m n x, ← be_digit m n y]
  have hx := Nat.mod_lt x hm
  have hy := Nat.mod_lt y hm
  generalize x / m % n = p, y / m % n = q, x % m = r, y % m = r' at *
  -- `p * m + r` against `q * m + r'` with both rests below `m`: the higher digit decides
  have key : ∀ {p q r r' : Nat}, r < m → p < q → p * m + r < q * m + r' := fun hr h =>
    Nat.lt_of_lt_of_le (pack_lt hr h) (Nat.le_add_right ..)
  rcases Nat.lt_trichotomy p q with h | rfl | h
  · rw [if_pos h, if_pos (key hx h)]
  · simp only [Nat.lt_irrefl, if_false, Nat.add_lt_add_iff_left]
  · rw [if_neg (Nat.lt_asymm h), if_pos h, if_neg (Nat.lt_asymm (key hy h)), if_pos (key hy h)]

end Dvid
