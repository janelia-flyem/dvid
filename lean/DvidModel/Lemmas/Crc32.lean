import DvidModel.Model.Crc32
/- The per-byte register update of CRC-32 is injective in the register for a fixed byte and in the byte for a fixed
   register.  Both come from the most significant byte of the new register, which is that of the table entry alone:
   the table is linear over GF(2) and only entry 0 has most significant byte 0 (`top_zero`, the one fact read off the
   256 entries by evaluation), so that byte determines the table index. -/
namespace Dvid.Crc32

theorem bitStep_xor (c d : Nat) : bitStep (c ^^^ d) = bitStep c ^^^ bitStep d := by
  unfold bitStep
  by_cases hc : c % 2 = 1 <;> by_cases hd : d % 2 = 1 <;>
    simp only [Nat.xor_mod_two_eq_one, hc, hd, Nat.xor_div_two, not_true_eq_false, not_false_eq_true, iff_false,
      iff_true, ↓reduceIte]
  -- both odd (the polynomial cancels), only `c` odd, only `d` odd; both even is closed by the `simp`
  · rw [Nat.xor_assoc, Nat.xor_comm (d / 2), ← Nat.xor_assoc 0xEDB88320, Nat.xor_self, Nat.zero_xor]
  · rw [Nat.xor_assoc, Nat.xor_comm (d / 2), ← Nat.xor_assoc]
  · rw [Nat.xor_assoc]

theorem entry_xor (c d : Nat) : entry (c ^^^ d) = entry c ^^^ entry d := by
  simp only [entry, bitStep_xor]

theorem top_zero : ∀ k : Fin 256, entry k.val / 16777216 % 256 = 0 → k.val = 0 := by
  decide +kernel

theorem table_getD (i : UInt8) : table.getD i.toNat 0 = entry i.toNat := by
  have h : i.toNat < 256 := i.toNat_lt
  simp [table, Array.getD, h]

theorem T_b3_injective {i j : UInt8} (h : (T i).b3 = (T j).b3) : i = j := by
  have h := congrArg UInt8.toNat h
  simp only [T, W.ofNat, table_getD, UInt8.toNat_ofNat'] at h
  -- the entry of `i ^^^ j` is the xor of the two entries, whose most significant bytes cancel
  have hz := top_zero ⟨i.toNat ^^^ j.toNat, Nat.xor_lt_two_pow (n := 8) i.toNat_lt j.toNat_lt⟩
    (by rw [entry_xor, show 16777216 = 2 ^ 24 from rfl, Nat.xor_div_two_pow, show 256 = 2 ^ 8 from rfl,
      Nat.xor_mod_two_pow, h, Nat.xor_self])
  exact UInt8.xor_eq_zero_iff.mp (UInt8.toNat_inj.mp (by rw [UInt8.toNat_xor]; exact hz))

theorem upd_injective_state {c d : W} {b : UInt8} (h : upd c b = upd d b) : c = d := by
  cases c with | mk c3 c2 c1 c0 =>
  cases d with | mk d3 d2 d1 d0 =>
  simp only [upd, W.mk.injEq] at h
  obtain ⟨h3, h2, h1, h0⟩ := h
  have hidx : c0 ^^^ b = d0 ^^^ b := T_b3_injective h3
  rw [hidx] at h2 h1 h0
  simp [(UInt8.xor_left_inj b).mp hidx, (UInt8.xor_right_inj _).mp h2, (UInt8.xor_right_inj _).mp h1,
    (UInt8.xor_right_inj _).mp h0]

theorem upd_injective_byte {c : W} {a b : UInt8} (h : upd c a = upd c b) : a = b := by
  cases c with | mk c3 c2 c1 c0 =>
  simp only [upd, W.mk.injEq] at h
  exact (UInt8.xor_right_inj c0).mp (T_b3_injective h.1)

theorem foldl_upd_injective {c d : W} {bs : Bytes} (h : bs.foldl upd c = bs.foldl upd d) : c = d := by
  induction bs generalizing c d with
  | nil => simpa using h
  | cons b bs ih => exact upd_injective_state (ih h)

theorem fin_injective {c d : W} (h : fin c = fin d) : c = d := by
  cases c
  cases d
  simp only [fin, W.mk.injEq] at h
  simpa only [UInt8.xor_left_inj, W.mk.injEq] using h

theorem W.le_injective {c d : W} (h : c.le = d.le) : c = d := by
  cases c
  cases d
  simp [W.le] at h
  simp [h]

theorem crc32_single_byte (p s : Bytes) (a b : UInt8) (hab : a ≠ b) :
    crc32 (p ++ a :: s) ≠ crc32 (p ++ b :: s) := by
  intro h
  have h1 := fin_injective h
  simp only [List.foldl_append, List.foldl_cons] at h1
  exact hab (upd_injective_byte (foldl_upd_injective h1))

end Dvid.Crc32
