import DvidModel.Model.ImageBlk
import DvidModel.Lemmas.List
/-
  The transfer between a request buffer and a block of imageblk (C17); block membership also serves `Partition` (C18).
  Whatever divides here — a coordinate into block and offset, a byte offset into voxel and byte, a row-major index
  into its digits — is `InBlock`: floor quotient and remainder (`inBlock_iff_ediv`, `inBlock_iff_offset`).
  A `copy` is a relation between byte indices of the two buffers (`Seg.maps`): where all copies that reach a byte
  deliver one value their order does not matter (`readSegs_eq`), and reading and writing are one statement,
  symmetric in the two buffers (`segs_vol_maps`).
-/
namespace Dvid.ImageBlk

def InBlock (n b x : Int) : Prop := b * n ≤ x ∧ x < (b + 1) * n

theorem inBlock_iff_ediv {n b x : Int} (hn : 0 < n) : InBlock n b x ↔ b = x / n := by
  unfold InBlock
  rw [← Int.le_ediv_iff_mul_le hn, ← Int.ediv_lt_iff_lt_mul hn]
  omega

theorem inBlock_iff_offset {n b x : Int} : InBlock n b x ↔ 0 ≤ x - b * n ∧ x - b * n < n := by
  unfold InBlock
  rw [Int.add_mul, Int.one_mul]
  omega

theorem InBlock.pos {n b x : Int} (h : InBlock n b x) : 0 < n := by
  rw [inBlock_iff_offset] at h
  omega

theorem inBlock_unique {n b b' x : Int} (h : InBlock n b x) (h' : InBlock n b' x) : b = b' := by
  rw [(inBlock_iff_ediv h.pos).1 h, (inBlock_iff_ediv h.pos).1 h']

theorem InBlock.range {n b x : Int} (h : InBlock n b x) (lo hi : Int) :
    lo * n ≤ x ∧ x < hi * n ↔ lo ≤ b ∧ b < hi := by
  rw [(inBlock_iff_ediv h.pos).1 h, Int.le_ediv_iff_mul_le h.pos, Int.ediv_lt_iff_lt_mul h.pos]

theorem chunk_eq_ediv {n x : Int} (hn : 0 < n) : Geom.chunk x n = x / n := by
  unfold Geom.chunk
  split
  · -- `x - n + 1 = -(n - 1 - x)` with `n - 1 - x ≥ 0`: the goal becomes `-((n - 1 - x) / n) = x / n`, and both quotients
    -- are fixed by their remainder bounds
    have e : x - n + 1 = -(n - 1 - x) := by omega
    rw [e, Int.neg_tdiv, Int.tdiv_eq_ediv_of_nonneg (by omega : (0:Int) ≤ n - 1 - x)]
    have hq := (inBlock_iff_ediv (x := n - 1 - x) hn).2 rfl
    refine (inBlock_iff_ediv hn).1 ?_
    rw [inBlock_iff_offset] at hq ⊢
    rw [Int.neg_mul]
    omega
  · exact Int.tdiv_eq_ediv_of_nonneg (by omega)

theorem chunk_inBlock {n x : Int} (hn : 0 < n) : InBlock n (Geom.chunk x n) x :=
  (inBlock_iff_ediv hn).2 (chunk_eq_ediv hn)

/-- with the regenerated facts `Gen.ibTransformIsIntersection`, `Gen.ibBlockBoxIsGrid` put in -/
theorem axisXfer_eq (n s m b : Int) : axisXfer n s m b =
    { blockBeg := max s (b * n) - b * n, dataBeg := max s (b * n) - s,
      dataEnd := min (s + m - 1) ((b + 1) * n - 1) - s } := rfl

theorem axis_complete {n s m b x : Int} (hx : s ≤ x ∧ x < s + m) (hb : InBlock n b x) :
    (axisXfer n s m b).dataBeg ≤ x - s ∧ x - s ≤ (axisXfer n s m b).dataEnd ∧
    (axisXfer n s m b).blockBeg + (x - s - (axisXfer n s m b).dataBeg) = x - b * n := by
  simp only [axisXfer_eq, InBlock, Int.add_mul, Int.one_mul] at hb ⊢
  omega

theorem axis_sound {n s m b i : Int}
    (hi : (axisXfer n s m b).dataBeg ≤ i ∧ i ≤ (axisXfer n s m b).dataEnd) :
    0 ≤ i ∧ i < m ∧ InBlock n b (s + i) ∧
    (axisXfer n s m b).blockBeg + (i - (axisXfer n s m b).dataBeg) = s + i - b * n := by
  simp only [axisXfer_eq, InBlock, Int.add_mul, Int.one_mul] at hi ⊢
  omega

theorem axis_thin {n s m b : Int} (hm : m = 1) (hb : InBlock n b s) :
    (axisXfer n s m b).dataBeg = 0 ∧ (axisXfer n s m b).dataEnd = 0 := by
  simp only [axisXfer_eq, InBlock, Int.add_mul, Int.one_mul] at hb ⊢
  omega

theorem mem_irange {a b i : Int} : i ∈ irange a b ↔ a ≤ i ∧ i ≤ b := by
  unfold irange
  simp only [List.mem_map, List.mem_range]
  constructor
  · rintro ⟨k, hk, rfl⟩
    omega
  · intro h
    exact ⟨(i - a).toNat, by omega, by omega⟩

theorem irange_self (a : Int) : irange a a = [a] := by
  simp [irange]

theorem digit_unique {n a a' r r' : Int} (hr : 0 ≤ r ∧ r < n) (hr' : 0 ≤ r' ∧ r' < n)
    (h : a * n + r = a' * n + r') : a = a' ∧ r = r' := by
  have e : a = a' := inBlock_unique (n := n) (x := a * n + r) (inBlock_iff_offset.2 (by omega))
    (inBlock_iff_offset.2 (by omega))
  subst e
  omega

theorem offset_digits {w n o : Int} (hw : 0 < w) :
    0 ≤ o ∧ o < n * w ↔ ∃ i c, (0 ≤ i ∧ i < n) ∧ (0 ≤ c ∧ c < w) ∧ o = i * w + c := by
  constructor
  · intro ho
    have hv : InBlock w (o / w) o := (inBlock_iff_ediv hw).2 rfl
    exact ⟨o / w, o - o / w * w, (hv.range 0 n).1 (by omega), inBlock_iff_offset.1 hv, by omega⟩
  · rintro ⟨i, c, hi, hc, rfl⟩
    have hv : InBlock w i (i * w + c) := inBlock_iff_offset.2 (by omega)
    have := (hv.range 0 n).2 hi
    omega

/-- byte `c` of the voxel at offset `(i,j,k)` in a row-major buffer of `mx × my × …` voxels of `bpv` bytes: the
    Go code's `z*dY + y*dX + x*bytesPerVoxel` with `dX = mx*bpv`, `dY = my*dX` -/
def lin (bpv mx my i j k c : Int) : Int := k * (my * (mx * bpv)) + j * (mx * bpv) + i * bpv + c

theorem lin_eq (bpv mx my i j k c : Int) : lin bpv mx my i j k c = ((k * my + j) * mx + i) * bpv + c := by
  unfold lin
  simp only [Int.add_mul, Int.mul_assoc]

theorem lin_row (bpv mx my a i j k c : Int) :
    lin bpv mx my (a + i) j k c = lin bpv mx my a j k 0 + (i * bpv + c) := by
  unfold lin
  rw [Int.add_mul]
  omega

theorem lin_inj {bpv mx my i j k c i' j' k' c' : Int}
    (hc : 0 ≤ c ∧ c < bpv) (hc' : 0 ≤ c' ∧ c' < bpv) (hi : 0 ≤ i ∧ i < mx) (hi' : 0 ≤ i' ∧ i' < mx)
    (hj : 0 ≤ j ∧ j < my) (hj' : 0 ≤ j' ∧ j' < my)
    (h : lin bpv mx my i j k c = lin bpv mx my i' j' k' c') : i = i' ∧ j = j' ∧ k = k' ∧ c = c' := by
  rw [lin_eq, lin_eq] at h
  obtain ⟨h1, hcc⟩ := digit_unique hc hc' h
  obtain ⟨h2, hii⟩ := digit_unique hi hi' h1
  obtain ⟨hkk, hjj⟩ := digit_unique hj hj' h2
  exact ⟨hii, hjj, hkk, hcc⟩

/-- one `copy(dst[d:d+len], src[s:s+len])` on buffers seen as functions of the byte index -/
def copySeg (src : Int → UInt8) (dst : Int → UInt8) (sg : Seg) : Int → UInt8 :=
  fun p => if sg.dataI ≤ p ∧ p < sg.dataI + sg.len then src (sg.blockI + (p - sg.dataI)) else dst p

/-- the copy `sg` takes byte `p` of the destination from byte `q` of the source -/
def Seg.maps (sg : Seg) (p q : Int) : Prop := ∃ o, (0 ≤ o ∧ o < sg.len) ∧ p = sg.dataI + o ∧ q = sg.blockI + o

theorem copySeg_of_maps {src dst : Int → UInt8} {sg : Seg} {p q : Int} (h : sg.maps p q) :
    copySeg src dst sg p = src q := by
  obtain ⟨o, ho, rfl, rfl⟩ := h
  unfold copySeg
  rw [if_pos (by omega)]
  congr 1
  omega

theorem copySeg_of_not_maps {src dst : Int → UInt8} {sg : Seg} {p : Int} (h : ∀ q, ¬ sg.maps p q) :
    copySeg src dst sg p = dst p := by
  unfold copySeg
  rw [if_neg]
  intro hc
  exact h _ ⟨p - sg.dataI, by omega, by omega, rfl⟩

/-- a copy of voxels `a..e` of row `(j, k)` of the request onto row `(j', k')` of the block from voxel `a'` on, `w` bytes
    per voxel: the byte at offset `(i - a) * w + c` of the copy is byte `c` of voxel `i` -/
theorem Seg.row_maps {sg : Seg} {w mx my nx ny a e a' j k j' k' p q : Int} (hw : 0 < w)
    (hd : sg.dataI = lin w mx my a j k 0) (hb : sg.blockI = lin w nx ny a' j' k' 0)
    (hl : sg.len = (e - a + 1) * w) :
    sg.maps p q ↔ ∃ i c, (a ≤ i ∧ i ≤ e) ∧ (0 ≤ c ∧ c < w) ∧
      p = lin w mx my i j k c ∧ q = lin w nx ny (a' + (i - a)) j' k' c := by
  unfold Seg.maps
  rw [hd, hb, hl]
  constructor
  · rintro ⟨o, ho, rfl, rfl⟩
    obtain ⟨i, c, hi, hc, rfl⟩ := (offset_digits hw).1 ho
    refine ⟨a + i, c, by omega, hc, (lin_row ..).symm, ?_⟩
    rw [show a + i - a = i by omega, lin_row]
  · rintro ⟨i, c, hi, hc, rfl, rfl⟩
    refine ⟨(i - a) * w + c, (offset_digits hw).2 ⟨i - a, c, by omega, hc, rfl⟩, ?_, lin_row ..⟩
    rw [← lin_row, show a + (i - a) = i by omega]

/-- the copies of `l` from `src` into `dst`, in the order the Go loops make them (either direction: `Seg.swap`) -/
def readSegs (src : Int → UInt8) (l : List Seg) (dst : Int → UInt8) : Int → UInt8 :=
  l.foldl (fun acc sg => copySeg src acc sg) dst

/-- Nothing is assumed about order or overlap of the copies: it is enough that every candidate for byte `p` (what
    was there, if no copy reaches `p`; the source byte of every copy that does) holds `v`. -/
theorem readSegs_eq {src : Int → UInt8} {l : List Seg} {dst : Int → UInt8} {p : Int} {v : UInt8}
    (hdst : (∀ q, ¬ ∃ sg ∈ l, sg.maps p q) → dst p = v)
    (hsrc : ∀ q, (∃ sg ∈ l, sg.maps p q) → src q = v) : readSegs src l dst p = v := by
  induction l generalizing dst with
  | nil => exact hdst fun _ ⟨_, h, _⟩ => nomatch h
  | cons sg l ih =>
    refine ih (dst := copySeg src dst sg) (fun hl => ?_) fun q ⟨s, hs, hq⟩ => hsrc q ⟨s, List.mem_cons_of_mem _ hs, hq⟩
    by_cases hm : ∃ q, sg.maps p q
    · obtain ⟨q, hq⟩ := hm
      rw [copySeg_of_maps hq]
      exact hsrc q ⟨sg, List.mem_cons_self .., hq⟩
    · rw [copySeg_of_not_maps fun q hq => hm ⟨q, hq⟩]
      refine hdst fun q ⟨s, hs, hq⟩ => ?_
      rcases List.mem_cons.1 hs with rfl | hs
      · exact hm ⟨q, hq⟩
      · exact hl q ⟨s, hs, hq⟩

theorem readSegs_miss {src : Int → UInt8} {l : List Seg} {dst : Int → UInt8} {p : Int}
    (h : ∀ q, ¬ ∃ sg ∈ l, sg.maps p q) : readSegs src l dst p = dst p :=
  readSegs_eq (fun _ => rfl) fun q hm => absurd hm (h q)

theorem readSegs_hit {src : Int → UInt8} {l : List Seg} {dst : Int → UInt8} {p q : Int}
    (hex : ∃ sg ∈ l, sg.maps p q) (huniq : ∀ q', (∃ sg ∈ l, sg.maps p q') → q' = q) :
    readSegs src l dst p = src q :=
  readSegs_eq (fun hno => absurd hex (hno q)) fun q' hm => by rw [huniq q' hm]

structure InReq (g : Geo) (x y z : Int) : Prop where
  hx : g.sx ≤ x ∧ x < g.sx + g.mx
  hy : g.sy ≤ y ∧ y < g.sy + g.my
  hz : g.sz ≤ z ∧ z < g.sz + g.mz

structure InBlk (g : Geo) (bx by_ bz x y z : Int) : Prop where
  hx : InBlock g.nx bx x
  hy : InBlock g.ny by_ y
  hz : InBlock g.nz bz z

def dataIdx (g : Geo) (x y z c : Int) : Int := lin g.bpv g.mx g.my (x - g.sx) (y - g.sy) (z - g.sz) c

def blockIdx (g : Geo) (bx by_ bz x y z c : Int) : Int :=
  lin g.bpv g.nx g.ny (x - bx * g.nx) (y - by_ * g.ny) (z - bz * g.nz) c

/-- The row copies of a block are the graph of the voxel map: some copy takes request byte `p` from block byte `q`
    iff `p` and `q` are the places, in the two buffers, of one byte of one voxel of request ∩ block. -/
theorem segs_vol_maps (g : Geo) (hbpv : 0 < g.bpv) (bx by_ bz p q : Int) :
    (∃ sg ∈ segs .vol g bx by_ bz, sg.maps p q) ↔
    ∃ x y z c, InReq g x y z ∧ InBlk g bx by_ bz x y z ∧ (0 ≤ c ∧ c < g.bpv) ∧
      p = dataIdx g x y z c ∧ q = blockIdx g bx by_ bz x y z c := by
  unfold segs
  simp only [Gen.ibReadVolRowCopies, Bool.not_true, Bool.false_eq_true, ↓reduceIte, List.mem_flatMap,
    List.mem_map, mem_irange]
  constructor
  · rintro ⟨_, ⟨k, hk, j, hj, rfl⟩, hm⟩
    -- the copy of row `(j, k)`: voxels `dataBeg..dataEnd` of the x transfer, landing from its `blockBeg` on in the block
    -- row the y and z transfers give; the model's index expressions are `lin … 0` without the final `+ 0`
    obtain ⟨i, c, hi, hc, rfl, rfl⟩ :=
      (Seg.row_maps hbpv (Int.add_zero _).symm (Int.add_zero _).symm rfl).1 hm
    obtain ⟨hx0, hx1, hbx, ex⟩ := axis_sound hi
    obtain ⟨hy0, hy1, hby, ey⟩ := axis_sound hj
    obtain ⟨hz0, hz1, hbz, ez⟩ := axis_sound hk
    refine ⟨g.sx + i, g.sy + j, g.sz + k, c, ⟨by omega, by omega, by omega⟩, ⟨hbx, hby, hbz⟩, hc, ?_, ?_⟩
    · unfold dataIdx
      rw [show g.sx + i - g.sx = i by omega, show g.sy + j - g.sy = j by omega, show g.sz + k - g.sz = k by omega]
    · unfold blockIdx
      rw [ex, ey, ez]
  · rintro ⟨x, y, z, c, hr, hb, hc, rfl, rfl⟩
    obtain ⟨hx0, hx1, ex⟩ := axis_complete hr.hx hb.hx
    obtain ⟨hy0, hy1, ey⟩ := axis_complete hr.hy hb.hy
    obtain ⟨hz0, hz1, ez⟩ := axis_complete hr.hz hb.hz
    refine ⟨_, ⟨z - g.sz, ⟨hz0, hz1⟩, y - g.sy, ⟨hy0, hy1⟩, rfl⟩, ?_⟩
    refine (Seg.row_maps hbpv (Int.add_zero _).symm (Int.add_zero _).symm rfl).2
      ⟨x - g.sx, c, ⟨hx0, hx1⟩, hc, rfl, ?_⟩
    unfold blockIdx
    rw [ex, ey, ez]

theorem dataIdx_inj {g : Geo} {x y z c x' y' z' c' : Int}
    (h : InReq g x y z) (h' : InReq g x' y' z') (hc : 0 ≤ c ∧ c < g.bpv) (hc' : 0 ≤ c' ∧ c' < g.bpv)
    (e : dataIdx g x y z c = dataIdx g x' y' z' c') : x = x' ∧ y = y' ∧ z = z' ∧ c = c' := by
  have := lin_inj hc hc' (i := x - g.sx) (i' := x' - g.sx) (j := y - g.sy) (j' := y' - g.sy)
    (by have := h.hx; omega) (by have := h'.hx; omega) (by have := h.hy; omega) (by have := h'.hy; omega) e
  omega

theorem blockIdx_inj {g : Geo} {bx by_ bz x y z c x' y' z' c' : Int}
    (h : InBlk g bx by_ bz x y z) (h' : InBlk g bx by_ bz x' y' z') (hc : 0 ≤ c ∧ c < g.bpv) (hc' : 0 ≤ c' ∧ c' < g.bpv)
    (e : blockIdx g bx by_ bz x y z c = blockIdx g bx by_ bz x' y' z' c') : x = x' ∧ y = y' ∧ z = z' ∧ c = c' := by
  have := lin_inj hc hc' (inBlock_iff_offset.1 h.hx) (inBlock_iff_offset.1 h'.hx) (inBlock_iff_offset.1 h.hy)
    (inBlock_iff_offset.1 h'.hy) e
  omega

theorem segs_vol_maps_dataIdx (g : Geo) (bx by_ bz : Int) {x y z c : Int} (hreq : InReq g x y z)
    (hc : 0 ≤ c ∧ c < g.bpv) (q : Int) :
    (∃ sg ∈ segs .vol g bx by_ bz, sg.maps (dataIdx g x y z c) q) ↔
      InBlk g bx by_ bz x y z ∧ q = blockIdx g bx by_ bz x y z c := by
  rw [segs_vol_maps g (by omega)]
  constructor
  · rintro ⟨x', y', z', c', hr', hb', hc', hp, hq⟩
    obtain ⟨rfl, rfl, rfl, rfl⟩ := dataIdx_inj hreq hr' hc hc' hp
    exact ⟨hb', hq⟩
  · rintro ⟨hb, hq⟩
    exact ⟨x, y, z, c, hreq, hb, hc, rfl, hq⟩

/-- the same `copy` in the other direction, as `writeBlock` (write.go) makes it -/
def Seg.swap (sg : Seg) : Seg := { dataI := sg.blockI, blockI := sg.dataI, len := sg.len }

theorem swap_maps (l : List Seg) (p q : Int) : (∃ sg ∈ l.map Seg.swap, sg.maps q p) ↔ ∃ sg ∈ l, sg.maps p q := by
  have e (sg : Seg) : sg.swap.maps q p ↔ sg.maps p q := exists_congr fun _ => and_congr_right fun _ => And.comm
  exact exists_mem_map.trans (exists_congr fun sg => and_congr_right fun _ => e sg)

theorem segs_vol_maps_blockIdx (g : Geo) (bx by_ bz : Int) {x y z c : Int} (hblk : InBlk g bx by_ bz x y z)
    (hc : 0 ≤ c ∧ c < g.bpv) (p : Int) :
    (∃ sg ∈ (segs .vol g bx by_ bz).map Seg.swap, sg.maps (blockIdx g bx by_ bz x y z c) p) ↔
      InReq g x y z ∧ p = dataIdx g x y z c := by
  rw [swap_maps, segs_vol_maps g (by omega)]
  constructor
  · rintro ⟨x', y', z', c', hr', hb', hc', hp, hq⟩
    obtain ⟨rfl, rfl, rfl, rfl⟩ := blockIdx_inj hblk hb' hc hc' hq
    exact ⟨hr', hp⟩
  · rintro ⟨hr, hp⟩
    exact ⟨x, y, z, c, hr, hblk, hc, hp, rfl⟩

end Dvid.ImageBlk
