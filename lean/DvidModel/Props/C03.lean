import DvidModel.Model.MapLog
import DvidModel.Props.C12
/-
  C03 — A restart changes nothing observable.
  Proved here: state *rebuilt* at start-up answers like the state it replaces, for
  (1) the labelmap's supervoxel→body mapping and split list (`replay_run`: replay of the mutation log = the live state),
  (2) the repo-wide label maximum (`C12.reload_spec`; the version-id counter's repair is `C04.reload_counter_fresh`,
      not restated here),
  (3) one axis of the extents' "changed" flag and the rule for branch heads, each a small function of this file whose
      shape is regenerated from the source: no save, reload or table is modelled.
  Everything else (DAG, notes, instance settings, every read endpoint of every data type at every version) the
  harness compares before and after clean and abrupt restarts of real server processes on generated histories,
  after canonicalising responses whose element order comes out of Go maps.
-/
namespace Dvid.Props.C03
open Dvid Dvid.MapLog

def Same (a b : St) : Prop := (∀ x, a.m x = b.m x) ∧ a.splits = b.splits

theorem Same.refl (a : St) : Same a a := ⟨fun _ => rfl, rfl⟩

/-- a mapping state is its two observations, so `Same` states are equal and every function of the state
    respects `Same` -/
theorem Same.eq : ∀ {a b : St}, Same a b → a = b
  | ⟨_, _⟩, ⟨_, _⟩, ⟨hm, hs⟩ => by
    cases funext hm
    cases hs
    rfl

theorem live_same {a b : St} (h : Same a b) (op : Op) : Same (live a op) (live b op) := h.eq ▸ Same.refl _

theorem logOf_same {a b : St} (h : Same a b) (op : Op) : logOf a op = logOf b op := h.eq ▸ rfl

theorem set_comm (st : St) (k1 v1 k2 v2 : Nat) (hne : k1 ≠ k2) :
    set (set st k1 v1) k2 v2 = set (set st k2 v2) k1 v1 := by
  refine Same.eq ⟨fun x => ?_, rfl⟩
  simp only [MapLog.set]
  by_cases h2 : x = k2
  · rw [if_pos h2, if_neg fun h1 => hne (h1.symm.trans h2), if_pos h2]
  · rw [if_neg h2, if_neg h2]

theorem set_set (st : St) (k v v' : Nat) : set (set st k v) k v' = set st k v' := by
  refine Same.eq ⟨fun x => ?_, rfl⟩
  simp only [MapLog.set]
  split <;> rfl

theorem setAll_set_comm (st : St) (ks : List Nat) (v k v' : Nat) (hk : k ∉ ks) :
    setAll (set st k v') ks v = set (setAll st ks v) k v' := by
  induction ks generalizing st with
  | nil => rfl
  | cons x xs ih =>
    rw [List.mem_cons, not_or] at hk
    show setAll (set (set st k v') x v) xs v = set (setAll (set st x v) xs v) k v'
    rw [set_comm st k v' x v hk.1, ih _ hk.2]

theorem replay_logOf (st : St) (op : Op) (hok : op.Ok) : replay st (logOf st op) = live st op := by
  cases op with
  | merge to svs => rfl
  | cleave cleaved svs => rfl
  | renumber nl svs => exact setAll_set_comm st svs nl nl 0 hok
  | svsplit mid sv split remain =>
    -- the log (one split record: `Gen.svSplitLogAppends`, regenerated) clears `sv` twice before it maps the two
    -- parts, memory maps the parts first
    obtain ⟨h1, h2, _⟩ := hok
    show set (set (set (set { st with splits := st.splits ++ [(mid, sv, remain, split)] } sv 0) sv 0)
      split (st.bodyOf sv)) remain (st.bodyOf sv) = _
    rw [set_set, set_comm _ sv 0 split _ h1, set_comm _ sv 0 remain _ h2]
    rfl

/-- **The mapping and split records rebuilt from the mutation log answer exactly as the live state they
    replace**, after any sequence of `Op.Ok` merges, cleaves, supervoxel splits and renumberings. -/
theorem replay_run (st : St) (ops : List Op) (hok : ∀ op ∈ ops, op.Ok) : replay st (run st ops).2 = (run st ops).1 := by
  induction ops generalizing st with
  | nil => rfl
  | cons op ops ih =>
    show replay st (logOf st op ++ (run (live st op) ops).2) = (run (live st op) ops).1
    rw [replay, List.foldl_append]
    -- the inner fold is `replay st (logOf st op)`, that is `live st op`: `ih` from that state
    exact replay_logOf st op (hok op List.mem_cons_self) ▸ ih (live st op) fun o ho => hok o (List.mem_cons_of_mem op ho)

/-- from an empty instance: a restart (replay of the whole log onto the empty state) gives the live state -/
theorem restart_mapping (ops : List Op) (hok : ∀ op ∈ ops, op.Ok) :
    Same (replay St.init (run St.init ops).2) (run St.init ops).1 :=
  replay_run St.init ops hok ▸ Same.refl _

/-- label counters: the repo-wide maximum that `loadLabelIDs` rebuilds is the live one (C12) -/
theorem restart_label_counters (l : Ids.Lab) (vs : List Nat) (h : Dvid.Props.C12.LabInv l) :
    (l.reload vs).maxRepo = l.maxRepo := (Dvid.Props.C12.reload_spec l vs h).2

/- Non-vacuity: the side condition `Op.Ok` of `restart_mapping` admits a supervoxel split and a cleave -/
example : (Op.svsplit 7 12 16 17).Ok ∧ (Op.cleave 30 [12, 13]).Ok := by
  constructor
  · exact ⟨by decide, by decide, by decide⟩
  · simp [Op.Ok]

/-! ### Extents saved with the instance

`Extents.AdjustIndices` widens the stored block-index extents by the span just written and tells the caller
whether anything moved; only then is the instance saved.  One axis of it, with the shape of the returned flag
regenerated from the source. -/

def adjustIdx (bothFlags : Bool) (mn mx b e : Int) : Int × Int × Bool :=
  (min mn b, max mx e, if bothFlags then decide (b < mn) || decide (mx < e) else decide (mx < e))

/-- on one axis: whenever the flag says "unchanged" (no save), the extents in memory are the extents already saved
    (so a restart would bring back the same; save and reload are not modelled) -/
theorem unsaved_extents_unchanged (mn mx b e : Int)
    (h : (adjustIdx Gen.extentsIndexChangeKeepsMin mn mx b e).2.2 = false) :
    (adjustIdx Gen.extentsIndexChangeKeepsMin mn mx b e).1 = mn ∧
    (adjustIdx Gen.extentsIndexChangeKeepsMin mn mx b e).2.1 = mx := by
  have hg : Gen.extentsIndexChangeKeepsMin = true := by decide
  rw [hg] at h ⊢
  simp only [adjustIdx, if_true, Bool.or_eq_false_iff, decide_eq_false_iff_not] at h ⊢
  omega

/-- the earlier shape (the flag of the maximum overwrote the flag of the minimum) loses a lowered minimum
    (the defect fixed in ec65a94) -/
example : (adjustIdx false 1 1 0 0).2.2 = false ∧ (adjustIdx false 1 1 0 0).1 ≠ 1 := by decide

/-! ### Branch heads rebuilt at start-up

The running server moves a branch's head only when a child *on that branch* is created; the table rebuilt at
start-up (`branchHeads`, shape regenerated) must agree. -/

/-- is a node (its branch, the branches of its children) the head of its branch in the rebuilt table? -/
def rebuiltHead (sameBranchOnly : Bool) (branch : String) (children : List String) : Bool :=
  if sameBranchOnly then !(children.any (· == branch)) else children.isEmpty

/-- what the running server has: the tip of a branch stays its head until a child continues the branch -/
def liveHead (branch : String) (children : List String) : Bool := !(children.any (· == branch))

theorem rebuilt_heads_agree_with_live (branch : String) (children : List String) :
    rebuiltHead Gen.branchHeadIgnoresOtherBranchChildren branch children = liveHead branch children := by
  have hg : Gen.branchHeadIgnoresOtherBranchChildren = true := by decide
  rw [hg]
  rfl

/-- the earlier shape (only childless nodes) loses master's head after POST branch on its tip (fixed in 00afb16) -/
example : rebuiltHead false "" ["side"] = false ∧ liveHead "" ["side"] = true := by decide

end Dvid.Props.C03
