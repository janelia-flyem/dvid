import DvidModel.Lemmas.ImageBlk
/-
  C17 — Image volumes return exactly the voxels that were written.

  Everything about buffers rests on `segs_vol_maps` (Lemmas/ImageBlk): the row copies between a request buffer and
  a block are the graph of "same byte of the same voxel" on request ∩ block.  Hence, for every block size, voxel
  width and request position/size (negative coordinates included), one block delivers the bytes of its own voxels
  and leaves the others alone, so the stored blocks can be read in ANY order (the implementation runs one
  goroutine per block: `readAll_hit`, `readAll_miss`); the write direction copies the same row segments the other
  way (`write_then_read`).  Besides: `ComputeTransform` per axis, `Point3d.Chunk`, the 2-D slice shapes, the
  advertised extents of both write paths (`raw`, `blocks`).

  The shape of `ComputeTransform`, the index arithmetic of `readBlock`, the block byte size used by `POST blocks`,
  the calls to `PostExtents`, the merge in `AdjustPoints` and the background prefill are regenerated from the source
  (`Gen.ImageBlk`) and the model depends on them (`source_facts` says how).  Left to the harness: the byte-to-byte
  transfer map of the real `ReadBlock`/`WriteBlock`, compared with `segs` on generated geometries, and every read
  geometry of the HTTP API, compared with an element-wise oracle.
  Not proved: PNG encoding of 2-D slices, ROI masking (roi membership is C18), storage (C01/C05).
-/
namespace Dvid.Props.C17
open Dvid Dvid.ImageBlk

/-- All hold on this tree.  The model depends on eight: `axisXfer`, `segs .vol`, `postedBlockBytes`, `postsExtents`,
    `adjust`, `initByte` branch on them.  No definition branches on `ibWriteVolRowCopies`,
    `ibPutVoxelsRequiresAlignment`, `ibChunkFloorByCase` (`writeBlock` is the converse of `readBlock`, and
    `Geom.chunk` floor by case, whatever they say; no theorem speaks of alignment): they record the shape of
    `writeBlock`, `PutVoxels`, `Point3d.Chunk`; if it changes, only this theorem fails. -/
theorem source_facts :
    Gen.ibTransformIsIntersection = true ∧ Gen.ibBlockBoxIsGrid = true ∧ Gen.ibReadVolRowCopies = true ∧
    Gen.ibWriteVolRowCopies = true ∧ Gen.ibPutBlocksWholeBlocks = true ∧ Gen.ibPutBlocksPostsExtents = true ∧
    Gen.ibPutVoxelsPostsExtents = true ∧ Gen.ibPutVoxelsRequiresAlignment = true ∧ Gen.ibExtentsOnlyGrow = true ∧
    Gen.ibReadPrefillsBackground = true ∧ Gen.ibChunkFloorByCase = true := by decide

/-- Go's floor-by-case `Chunk` is the containing block, for negative coordinates as well -/
theorem chunk_is_containing_block (n x : Int) (hn : 0 < n) : InBlock n (Geom.chunk x n) x := chunk_inBlock hn

theorem containing_block_unique (n b b' x : Int) (hn : 0 < n) (h : InBlock n b x) (h' : InBlock n b' x) : b = b' := by
  have _ := hn
  exact inBlock_unique h h'

/-- per axis: a requested coordinate in block `b` is transferred, from its own offset in the block -/
theorem transform_complete (n s m b x : Int) (hx : s ≤ x ∧ x < s + m) (hb : InBlock n b x) :
    (axisXfer n s m b).dataBeg ≤ x - s ∧ x - s ≤ (axisXfer n s m b).dataEnd ∧
    (axisXfer n s m b).blockBeg + (x - s - (axisXfer n s m b).dataBeg) = x - b * n := axis_complete hx hb

/-- per axis: nothing else is transferred — every transferred position is a requested coordinate of block `b` -/
theorem transform_sound (n s m b i : Int)
    (hi : (axisXfer n s m b).dataBeg ≤ i ∧ i ≤ (axisXfer n s m b).dataEnd) :
    0 ≤ i ∧ i < m ∧ InBlock n b (s + i) ∧
    (axisXfer n s m b).blockBeg + (i - (axisXfer n s m b).dataBeg) = s + i - b * n := axis_sound hi

example : axisXfer 16 (-20) 30 (-1) = { blockBeg := 0, dataBeg := 4, dataEnd := 19 } := by decide
example : axisXfer 16 (-20) 30 (-2) = { blockBeg := 12, dataBeg := 0, dataEnd := 3 } := by decide

/-- `Voxels.readBlock` (read.go) for a 3-D request -/
def readBlock (g : Geo) (b : Int × Int × Int) (blk : Int → UInt8) (data : Int → UInt8) : Int → UInt8 :=
  readSegs blk (segs .vol g b.1 b.2.1 b.2.2) data

def readAll (g : Geo) (stored : List ((Int × Int × Int) × (Int → UInt8))) (data : Int → UInt8) : Int → UInt8 :=
  stored.foldl (fun acc e => readBlock g e.1 e.2 acc) data

structure GeoOK (g : Geo) : Prop where
  bpv : 0 < g.bpv
  nx : 0 < g.nx
  ny : 0 < g.ny
  nz : 0 < g.nz
  mx : 0 < g.mx

theorem readBlock_other (g : Geo) (b : Int × Int × Int) (blk data : Int → UInt8)
    (x y z c : Int) (hreq : InReq g x y z) (hc : 0 ≤ c ∧ c < g.bpv)
    (hnot : ¬ InBlk g b.1 b.2.1 b.2.2 x y z) :
    readBlock g b blk data (dataIdx g x y z c) = data (dataIdx g x y z c) :=
  readSegs_miss fun q h => hnot ((segs_vol_maps_dataIdx g b.1 b.2.1 b.2.2 hreq hc q).1 h).1

theorem readBlock_own (g : Geo) (b : Int × Int × Int) (blk data : Int → UInt8)
    (x y z c : Int) (hreq : InReq g x y z) (hc : 0 ≤ c ∧ c < g.bpv)
    (hin : InBlk g b.1 b.2.1 b.2.2 x y z) :
    readBlock g b blk data (dataIdx g x y z c) = blk (blockIdx g b.1 b.2.1 b.2.2 x y z c) :=
  have key := segs_vol_maps_dataIdx g b.1 b.2.1 b.2.2 hreq hc
  readSegs_hit ((key _).2 ⟨hin, rfl⟩) fun q h => ((key q).1 h).2

/-- unwritten voxels keep what the request buffer started with (in dvid: the background prefill) -/
theorem readAll_miss (g : Geo) (stored : List ((Int × Int × Int) × (Int → UInt8)))
    (data : Int → UInt8) (x y z c : Int) (hreq : InReq g x y z) (hc : 0 ≤ c ∧ c < g.bpv)
    (hnone : ∀ e ∈ stored, ¬ InBlk g e.1.1 e.1.2.1 e.1.2.2 x y z) :
    readAll g stored data (dataIdx g x y z c) = data (dataIdx g x y z c) :=
  foldl_fixed (· (dataIdx g x y z c)) (fun acc e he => readBlock_other g e.1 e.2 acc x y z c hreq hc (hnone e he)) data

/-- written voxels: whatever the order in which the stored blocks are processed, every requested voxel that lies
    in a stored block reads as that block's bytes at the voxel's own offset -/
theorem readAll_hit (g : Geo) (stored : List ((Int × Int × Int) × (Int → UInt8)))
    (hnodup : (stored.map (·.1)).Nodup) (data : Int → UInt8) (x y z c : Int) (hreq : InReq g x y z)
    (hc : 0 ≤ c ∧ c < g.bpv) (e : (Int × Int × Int) × (Int → UInt8)) (he : e ∈ stored)
    (hin : InBlk g e.1.1 e.1.2.1 e.1.2.2 x y z) :
    readAll g stored data (dataIdx g x y z c) = e.2 (blockIdx g e.1.1 e.1.2.1 e.1.2.2 x y z c) := by
  obtain ⟨s, t, rfl⟩ := List.append_of_mem he
  rw [List.map_append, List.map_cons, List.nodup_append, List.nodup_cons] at hnodup
  obtain ⟨_, ⟨hlater, _⟩, _⟩ := hnodup
  unfold readAll
  rw [List.foldl_append, List.foldl_cons]
  -- the step for `e` delivers the bytes; no later block contains the voxel, since a voxel lies in one block only
  refine (readAll_miss g t _ x y z c hreq hc fun e' he' hin' => hlater ?_).trans
    (readBlock_own g e.1 e.2 _ x y z c hreq hc hin)
  have hb : e.1 = e'.1 := Prod.ext (inBlock_unique hin.hx hin'.hx)
    (Prod.ext (inBlock_unique hin.hy hin'.hy) (inBlock_unique hin.hz hin'.hz))
  exact hb ▸ List.mem_map_of_mem he'

/-- `readAll_hit`; it does not need `ok` -/
theorem readBox_hit (g : Geo) (ok : GeoOK g) (stored : List ((Int × Int × Int) × (Int → UInt8)))
    (hnodup : (stored.map (·.1)).Nodup) (data : Int → UInt8) (x y z c : Int) (hreq : InReq g x y z)
    (hc : 0 ≤ c ∧ c < g.bpv) (e : (Int × Int × Int) × (Int → UInt8)) (he : e ∈ stored)
    (hin : InBlk g e.1.1 e.1.2.1 e.1.2.2 x y z) :
    readAll g stored data (dataIdx g x y z c) = e.2 (blockIdx g e.1.1 e.1.2.1 e.1.2.2 x y z c) := by
  have _ := ok
  exact readAll_hit g stored hnodup data x y z c hreq hc e he hin

/-- `Voxels.writeBlock` (write.go): the row segments of `readBlock`, copied from the request buffer into the block -/
def writeBlock (g : Geo) (b : Int × Int × Int) (data : Int → UInt8) (blk : Int → UInt8) : Int → UInt8 :=
  readSegs data ((segs .vol g b.1 b.2.1 b.2.2).map Seg.swap) blk

theorem writeBlock_own (g : Geo) (b : Int × Int × Int) (data blk : Int → UInt8)
    (x y z c : Int) (hreq : InReq g x y z) (hc : 0 ≤ c ∧ c < g.bpv) (hin : InBlk g b.1 b.2.1 b.2.2 x y z) :
    writeBlock g b data blk (blockIdx g b.1 b.2.1 b.2.2 x y z c) = data (dataIdx g x y z c) :=
  have key := segs_vol_maps_blockIdx g b.1 b.2.1 b.2.2 hin hc
  readSegs_hit ((key _).2 ⟨hreq, rfl⟩) fun p h => ((key p).1 h).2

/-- a write leaves the bytes of the block that belong to no requested voxel alone -/
theorem writeBlock_other (g : Geo) (ok : GeoOK g) (b : Int × Int × Int) (data blk : Int → UInt8) (q : Int)
    (hq : ∀ x y z c, InReq g x y z → InBlk g b.1 b.2.1 b.2.2 x y z → 0 ≤ c ∧ c < g.bpv → q ≠ blockIdx g b.1 b.2.1 b.2.2 x y z c) :
    writeBlock g b data blk q = blk q := by
  refine readSegs_miss fun p h => ?_
  obtain ⟨x, y, z, c, hr, hb, hc, _, hqe⟩ := (segs_vol_maps g ok.bpv _ _ _ p q).1 ((swap_maps _ p q).1 h)
  exact hq x y z c hr hb hc hqe

/-- a voxel written through request `gw` into block `b`, then read from it (one `writeBlock` directly followed by one
    `readBlock`) through any request `gr` of the same instance (same voxel width and block size), comes back with the
    bytes it was written with — whatever the alignment of the read box, negative coordinates included -/
theorem readBlock_writeBlock (gw gr : Geo)
    (hsame : gr.bpv = gw.bpv ∧ gr.nx = gw.nx ∧ gr.ny = gw.ny ∧ gr.nz = gw.nz)
    (b : Int × Int × Int) (wdata blk0 rdata : Int → UInt8) (x y z c : Int)
    (hw : InReq gw x y z) (hr : InReq gr x y z) (hc : 0 ≤ c ∧ c < gw.bpv) (hin : InBlk gw b.1 b.2.1 b.2.2 x y z) :
    readBlock gr b (writeBlock gw b wdata blk0) rdata (dataIdx gr x y z c) = wdata (dataIdx gw x y z c) := by
  obtain ⟨h1, h2, h3, h4⟩ := hsame
  have hin' : InBlk gr b.1 b.2.1 b.2.2 x y z := ⟨h2 ▸ hin.hx, h3 ▸ hin.hy, h4 ▸ hin.hz⟩
  have e : blockIdx gr b.1 b.2.1 b.2.2 x y z c = blockIdx gw b.1 b.2.1 b.2.2 x y z c := by
    unfold blockIdx
    rw [h1, h2, h3, h4]
  rw [readBlock_own gr b _ rdata x y z c hr (h1 ▸ hc) hin', e]
  exact writeBlock_own gw b wdata blk0 x y z c hw hc hin

/-- `readBlock_writeBlock`; it needs neither `okw` nor `okr` -/
theorem write_then_read (gw gr : Geo) (okw : GeoOK gw) (okr : GeoOK gr)
    (hsame : gr.bpv = gw.bpv ∧ gr.nx = gw.nx ∧ gr.ny = gw.ny ∧ gr.nz = gw.nz)
    (b : Int × Int × Int) (wdata blk0 rdata : Int → UInt8) (x y z c : Int)
    (hw : InReq gw x y z) (hr : InReq gr x y z) (hc : 0 ≤ c ∧ c < gw.bpv) (hin : InBlk gw b.1 b.2.1 b.2.2 x y z) :
    readBlock gr b (writeBlock gw b wdata blk0) rdata (dataIdx gr x y z c) = wdata (dataIdx gw x y z c) := by
  have _ := okw
  have _ := okr
  exact readBlock_writeBlock gw gr hsame b wdata blk0 rdata x y z c hw hr hc hin

/-- the 2-D slice shapes are the 3-D transfer of a one-voxel-thick box (when the block meets the slice) -/
theorem xy_is_thin_box (g : Geo) (bx by_ bz : Int) (hm : g.mz = 1) (hz : InBlock g.nz bz g.sz) :
    segs .xy g bx by_ bz = segs .vol g bx by_ bz := by
  obtain ⟨hb, he⟩ := axis_thin hm hz
  unfold segs
  simp only [Gen.ibReadVolRowCopies, Bool.not_true, Bool.false_eq_true, ↓reduceIte, hb, he, irange_self]
  -- `.vol`'s z loop runs over `[0]`: its one pass is the `.xy` row list with `0 * dY +` and `+ (0 - 0)` in the indices
  simp only [List.flatMap_cons, List.flatMap_nil, List.append_nil, Int.sub_zero,
    Int.zero_mul, Int.zero_add, Int.add_zero]

theorem xz_is_thin_box (g : Geo) (bx by_ bz : Int) (hm : g.my = 1) (hy : InBlock g.ny by_ g.sy) :
    segs .xz g bx by_ bz = segs .vol g bx by_ bz := by
  obtain ⟨hb, he⟩ := axis_thin hm hy
  unfold segs
  simp only [Gen.ibReadVolRowCopies, Bool.not_true, Bool.false_eq_true, ↓reduceIte, hb, he, irange_self]
  -- the y loop runs over `[0]`; `my = 1` makes the row stride `dY` of the request equal to `dX`
  simp only [hm, List.map_eq_flatMap, List.flatMap_cons, List.flatMap_nil, List.append_nil, Int.sub_zero,
    Int.zero_mul, Int.one_mul, Int.add_zero]

theorem yz_is_thin_box (g : Geo) (bx by_ bz : Int) (hm : g.mx = 1) (hx : InBlock g.nx bx g.sx) :
    segs .yz g bx by_ bz = segs .vol g bx by_ bz := by
  obtain ⟨hb, he⟩ := axis_thin hm hx
  unfold segs
  simp only [Gen.ibReadVolRowCopies, Bool.not_true, Bool.false_eq_true, ↓reduceIte, hb, he]
  simp only [hm, Int.sub_self, Int.zero_mul, Int.one_mul, Int.zero_add, Int.add_zero]

/-- one step of `advertised` with the regenerated facts put in: every write path posts its box, and
    `AdjustPoints` only ever widens the interval -/
theorem advertised_step (e : Option (Int × Int)) (v : Write) :
    (if postsExtents v.kind then adjust e v.lo v.hi else e) =
      some (e.elim (v.lo, v.hi) fun ab => (min ab.1 v.lo, max ab.2 v.hi)) := by
  have hp : postsExtents v.kind = true := by cases v.kind <;> rfl
  rw [if_pos hp]
  cases e <;> rfl

/-- the advertised extent covers every write that was made through either write path -/
theorem extents_cover (ws : List Write) (w : Write) (hw : w ∈ ws) :
    ∃ a b, advertised ws = some (a, b) ∧ a ≤ w.lo ∧ w.hi ≤ b := by
  -- the step that posts `w` covers its box, and every later step keeps what was covered
  obtain ⟨s, t, rfl⟩ := List.append_of_mem hw
  unfold advertised
  rw [List.foldl_append, List.foldl_cons, advertised_step]
  refine List.foldlRecOn (motive := fun e => ∃ a b, e = some (a, b) ∧ a ≤ w.lo ∧ w.hi ≤ b) t _ ?_ ?_
  · cases List.foldl _ none s with
    | none => exact ⟨_, _, rfl, Int.le_refl _, Int.le_refl _⟩
    | some ab => exact ⟨_, _, rfl, Int.min_le_right .., Int.le_max_right ..⟩
  · rintro _ ⟨a, b, rfl, h1, h2⟩ v _
    rw [advertised_step]
    exact ⟨_, _, rfl, Int.le_trans (Int.min_le_left ..) h1, Int.le_trans h2 (Int.le_max_left ..)⟩

example : advertised [⟨.raw, 0, 15⟩, ⟨.blocks, -32, -17⟩, ⟨.raw, 16, 47⟩] = some (-32, 47) := by decide

/-- the regenerated fact `ibPutBlocksWholeBlocks` read through `postedBlockBytes`: `POST blocks` takes whole blocks
    of every voxel width -/
theorem posted_block_is_whole (vox bpv : Int) : postedBlockBytes vox bpv = vox * bpv := rfl

/-- the regenerated fact `ibReadPrefillsBackground` read through `initByte`: the buffer of a read starts with the
    background value, which by `readAll_miss` is what an unwritten 1-byte voxel keeps (the two are not composed) -/
theorem unwritten_reads_background (bg : UInt8) : initByte bg = bg := rfl

end Dvid.Props.C17
