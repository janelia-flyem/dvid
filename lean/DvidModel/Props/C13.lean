import DvidModel.Lemmas.Ann
import DvidModel.Model.AnnLabel
/-
  C13 — Annotation indexes are views of one element set.
  Proved over a mirror of the block store and the per-tag index (`Elements.add`: `addList_spec` in Lemmas/Ann): a
  POST (through addTagDelta / modifyTagElements, incl. overwriting a position with other tags), a delete and a move
  that meet `Req.Ok` each keep `Inv` — every tag list holds exactly the relationship-free copies of the elements
  that carry the tag, once each; hence so does every history of such requests (`views_after_any_history`).
  The per-body lists keep holding the elements on each body — as sets: `LInv` is membership, a copy listed twice
  is not seen — under the label events merge and cleave (`mergeSync_inv`, `cleaveSync_inv`, over regenerated
  shape facts of sync.go) and, with distinct positions (`LInv2`), under a POST and a DELETE of elements
  (`postLabels_inv`, `deleteLabels_inv`).
  Left to the harness (DESIGN.md §4 C13): per-body lists under element moves and supervoxel splits, spatial
  queries, relationship rewrites and the synced counts, against an element-set oracle; the model is compared with
  the server's tag and all-elements answers after every request.
-/
namespace Dvid.Props.C13
open Dvid Dvid.Ann

theorem store_inv (s : St) (new : List Elem) (h : Inv s) (hn : PosNodup new) : Inv (store s new) := by
  refine ⟨(addList_spec h.blocks hn).1, fun t => ?_, fun t => ?_⟩
  · rw [store_tagIdx]
    exact posNodup_sublist List.filter_sublist (addList_spec (h.tagNodup t) (posNodup_filter_map_nr hn _)).1
  · have hadds : tagAdds new t = (new.filter fun e => decide (e.tags.contains t = true)).map nr := by
      simp only [tagAdds, Bool.decide_eq_true]
    rw [store_tagIdx, hadds]
    refine (h.view t).addList_filter (keep := fun p => !(tagErases s.blocks new t).contains p)
      (h.tagNodup t) h.blocks hn fun p => ?_
    rw [← mem_tagErases s.blocks new hn t p]
    simp

theorem delete_inv (s : St) (p : Pos) (h : Inv s) : Inv (delete s p) := by
  unfold delete
  cases hf : s.blocks.find? (·.pos == p) with
  | none => exact h
  | some d =>
    obtain ⟨hd, hdp⟩ := find_some_spec hf
    refine ⟨posNodup_map (fun _ => rfl) (posNodup_removePos h.blocks p), fun t => ?_, fun t => ?_⟩
    · exact posNodup_ite (posNodup_removePos (h.tagNodup t) p) (h.tagNodup t)
    · -- if the deleted element does not carry `t`, no element that does sits at `p`
      have hv := (h.view t).removePos_ite p (d.tags.contains t = true) fun hdt b hb hbt hbp =>
        hdt (posNodup_eq h.blocks hb hd (hbp.trans hdp.symm) ▸ hbt)
      exact hv.map_elems _ (fun _ _ _ => rfl) (fun _ _ => Iff.rfl)

theorem move_inv (s : St) (p q : Pos) (h : Inv s) (hq : ∀ b ∈ s.blocks, b.pos ≠ q) : Inv (move s p q) := by
  unfold move
  cases hf : s.blocks.find? (·.pos == p) with
  | none => exact h
  | some m =>
    obtain ⟨hm, hmp⟩ := find_some_spec hf
    -- position, tags and relationship-free copy of `g e` are those of `mv p q e`, by definition
    let g : Elem → Elem := fun e =>
      { mv p q e with rels := (mv p q e).rels.map fun r => if r.2 == p then (r.1, q) else r }
    refine ⟨posNodup_map_mv p q g (fun _ => rfl) h.blocks hq, fun t => ?_, fun t => ?_⟩
    · refine posNodup_ite (posNodup_map_mv p q (mv p q) (fun _ => rfl) (h.tagNodup t) fun y hy => ?_) (h.tagNodup t)
      obtain ⟨b, hb, _, rfl⟩ := (h.tagMem t y).1 hy
      exact hq b hb
    · show ViewOf (·.tags.contains t = true)
        (if m.tags.contains t = true then (s.tagIdx t).map (mv p q) else s.tagIdx t) (s.blocks.map g)
      have hs : ∀ e ∈ s.blocks, (g e).tags.contains t = true ↔ e.tags.contains t = true := fun e _ => by
        rw [show (g e).tags = e.tags from mv_tags p q e]
      split
      · exact (h.view t).map g (mv p q) (fun e _ _ => nr_mv p q e) hs
      next hmt =>
        -- an element that carries `t` is not the moved one, which does not
        refine (h.view t).map_elems g (fun e he het => (nr_mv p q e).trans (mv_of_ne (e := nr e) ?_ q)) hs
        exact fun hp => hmt (posNodup_eq h.blocks he hm (hp.trans hmp.symm) ▸ het)

inductive Req where
  | store (new : List Elem)
  | delete (p : Pos)
  | move (p q : Pos)

def Req.apply (s : St) : Req → St
  | .store new => Ann.store s new
  | .delete p => Ann.delete s p
  | .move p q => Ann.move s p q

/-- assumed of the requests, not checked by the handlers: a POST lists each position once; a move goes to a position
    where nothing is stored (`MoveElement` never looks at the target) -/
def Req.Ok (s : St) : Req → Prop
  | .store new => PosNodup new
  | .delete _ => True
  | .move _ q => ∀ b ∈ s.blocks, b.pos ≠ q

def runReqs : St → List Req → St
  | s, [] => s
  | s, r :: rs => runReqs (r.apply s) rs

def AllOk : St → List Req → Prop
  | _, [] => True
  | s, r :: rs => r.Ok s ∧ AllOk (r.apply s) rs

theorem init_inv : Inv init := ⟨by simp [PosNodup, init], fun t => by simp [PosNodup, init], fun t x => by simp [init]⟩

theorem views_after_any_history (rs : List Req) (s : St) (h : Inv s) (hok : AllOk s rs) : Inv (runReqs s rs) := by
  induction rs generalizing s with
  | nil => exact h
  | cons r rs ih =>
    obtain ⟨h1, h2⟩ := hok
    apply ih _ _ h2
    cases r with
    | store new => exact store_inv s new h h1
    | delete p => exact delete_inv s p h
    | move p q => exact move_inv s p q h h1

/- the premises can be met: post two tagged elements, overwrite one with other tags, move the other -/
def e1 : Elem := ⟨(1, 2, 3), 1, ["t1", "t2"], "a", []⟩
def e2 : Elem := ⟨(-70, 0, 64), 2, ["t2"], "b", []⟩
def e1' : Elem := ⟨(1, 2, 3), 3, ["t3"], "c", []⟩
def demoReqs : List Req := [.store [e1, e2], .store [e1'], .move (-70, 0, 64) (5, 5, 5)]
example : ((runReqs init demoReqs).tagIdx "t2").map (·.pos) = [(5, 5, 5)] ∧
    ((runReqs init demoReqs).tagIdx "t1") = [] ∧ ((runReqs init demoReqs).tagIdx "t3").map (·.prop) = ["c"] := by decide +kernel

/-! ### the per-body lists -/

section Labels
open Dvid.AnnLabel

def LInv (s : LSt) : Prop :=
  ∀ b x, b ≠ 0 → (x ∈ s.idx b ↔ ∃ e ∈ s.elems, s.labelOf e.pos = b ∧ x = nr e)

theorem linv_iff (s : LSt) :
    LInv s ↔ ∀ b, b ≠ 0 → ViewOf (fun e => s.labelOf e.pos = b) (s.idx b) s.elems :=
  ⟨fun h b hb => ViewOf.iff_eq_nr.2 fun x => h b x hb, fun h b x hb => ViewOf.iff_eq_nr.1 (h b hb) x⟩

theorem mergeSync_idx (s : LSt) (target : Nat) (ms : List Nat) (b : Nat) :
    (mergeSync s target ms).idx b =
      if b = target then s.idx target ++ ms.flatMap s.idx else if b ∈ ms then [] else s.idx b := by
  unfold mergeSync
  simp only [Gen.annMergeAppendsAndDeletes, ↓reduceIte]

/-- merge keeps the lists exact whatever the target is, also one of the merged bodies (its list is then appended
    to itself, which the membership reading of `LInv` does not see) -/
theorem mergeSync_linv (s : LSt) (target : Nat) (ms : List Nat) (h0 : (0 : Nat) ∉ ms) (h : LInv s) :
    LInv (mergeSync s target ms) := by
  rw [linv_iff] at h ⊢
  intro b hb
  have hms : ViewOf (fun e => ∃ m ∈ ms, s.labelOf e.pos = m) (ms.flatMap s.idx) s.elems :=
    ViewOf.flatMap fun m hm => h m fun e => h0 (e ▸ hm)
  -- the selector with the new mapping spelled out
  show ViewOf (fun e => (if s.labelOf e.pos ∈ ms then target else s.labelOf e.pos) = b) _ s.elems
  rw [mergeSync_idx]
  -- the calculus computes the selector of the new list; what remains is to compare it with the new mapping
  refine (ViewOf.ite (b = target) (fun hbt => (hbt ▸ h b hb).append hms) fun _ =>
    ViewOf.ite (b ∈ ms) (fun _ => ViewOf.nil) fun _ => h b hb).congr fun e _ => ?_
  simp only [exists_eq_right']
  -- an identity between `if`s on `b = target`, `b ∈ ms`, `labelOf e.pos ∈ ms`, `labelOf e.pos = b`; `target ∈ ms`
  -- needs no case: at `b = target` both sides read `labelOf e.pos = target ∨ labelOf e.pos ∈ ms`
  grind

/-- **merge**: after `mergeLabels` (the merged bodies' lists go to the target) every list again holds the elements
    on that body under the new mapping, unless label 0, whose list `LInv` says nothing of, is merged -/
theorem mergeSync_inv (s : LSt) (target : Nat) (ms : List Nat) (ht : target ≠ 0) (htm : target ∉ ms)
    (h0 : (0 : Nat) ∉ ms) (h : LInv s) : LInv (mergeSync s target ms) := by
  have _ := ht
  have _ := htm
  exact mergeSync_linv s target ms h0 h

/-- `cleaveLabels` without the three shortcuts of the Go code (nothing stored under the target, one side empty):
    the new body had no list, and an empty side is an empty list -/
theorem cleaveSync_idx (s : LSt) (target cleaved : Nat) (svs : List Nat) (hcl : s.idx cleaved = []) (b : Nat) :
    (cleaveSync s target cleaved svs).idx b =
      if b = cleaved then (s.idx target).filter fun e => decide (s.svAt e.pos ∈ svs)
      else if b = target then (s.idx target).filter fun e => !decide (s.svAt e.pos ∈ svs)
      else s.idx b := by
  unfold cleaveSync
  simp only [Gen.annCleaveDeletesEmptiedTarget, ↓reduceIte, hcl, ite_isEmpty_nil]
  refine ite_eq_right_iff.2 fun hte => ?_
  have hT : s.idx target = [] := List.isEmpty_iff.1 hte
  rw [hT, List.filter_nil, List.filter_nil]
  -- by `hcl` and `hT`, `s.idx b` is `[]` at `b = cleaved` and at `b = target`
  grind

/-- cleave keeps the lists exact when no element lies on the new body yet; the supervoxels need not belong to the
    target, and `cleaved = target` is allowed (nothing is then listed under it, before or after) -/
theorem cleaveSync_linv (s : LSt) (target cleaved : Nat) (svs : List Nat) (ht : target ≠ 0) (hc0 : cleaved ≠ 0)
    (hfresh : ∀ e ∈ s.elems, s.labelOf e.pos ≠ cleaved) (h : LInv s) : LInv (cleaveSync s target cleaved svs) := by
  rw [linv_iff] at h ⊢
  intro b hb
  have hT := h target ht
  have hcl : s.idx cleaved = [] := List.eq_nil_iff_forall_not_mem.2 fun y hy => by
    obtain ⟨e, he, hl, _⟩ := (h cleaved hc0 y).1 hy
    exact hfresh e he hl
  -- the selector with the new mapping spelled out
  show ViewOf (fun e => (if s.svAt e.pos ∈ svs ∧ s.body (s.svAt e.pos) = target then cleaved else s.labelOf e.pos) = b)
    _ s.elems
  rw [cleaveSync_idx s target cleaved svs hcl b]
  refine (ViewOf.ite (b = cleaved) (fun _ => hT.filter _ fun _ => rfl) fun _ =>
    ViewOf.ite (b = target) (fun _ => hT.filter _ fun _ => rfl) fun _ => h b hb).congr fun e he => ?_
  have hf := hfresh e he
  simp only [LSt.labelOf, decide_eq_true_eq, Bool.not_eq_true', decide_eq_false_iff_not] at hf ⊢
  -- an identity between `if`s on `b = cleaved`, `b = target`, `svAt e.pos ∈ svs`, `labelOf e.pos = target`, `= b`;
  -- `hf` is for `b = cleaved`: an element that is not moved does not lie on `cleaved`
  grind

/-- **cleave**: after `cleaveLabels` the elements whose position lies in a cleaved supervoxel are listed under the
    new body and no longer under the target — also when that empties the target's list (`hfresh` asks more than
    the proof uses: `cleaveSync_linv`) -/
theorem cleaveSync_inv (s : LSt) (target cleaved : Nat) (svs : List Nat) (ht : target ≠ 0) (hc0 : cleaved ≠ 0)
    (hne : cleaved ≠ target) (hfresh : ∀ sv, s.body sv ≠ cleaved)
    (hsvs : ∀ sv ∈ svs, s.body sv = target) (h : LInv s) : LInv (cleaveSync s target cleaved svs) := by
  have _ := hne
  have _ := hsvs
  exact cleaveSync_linv s target cleaved svs ht hc0 (fun _ _ => hfresh _) h

def LInv2 (s : LSt) : Prop := PosNodup s.elems ∧ (∀ b, b ≠ 0 → PosNodup (s.idx b)) ∧ LInv s

theorem postLabels_idx (s : LSt) (new : List Elem) {b : Nat} (hb : b ≠ 0) :
    (postLabels s new).idx b = addList (s.idx b) ((new.filter fun e => decide (s.labelOf e.pos = b)).map nr) := by
  unfold postLabels
  simp only [hb, decide_false, Bool.and_false, Bool.false_eq_true, if_false, Gen.annLabelPostReplacesSamePos, if_true]
  exact ite_isEmpty_addList _ _

theorem deleteLabels_idx (s : LSt) (p : Pos) (b : Nat) :
    (deleteLabels s p).idx b = if b = s.labelOf p then removePos (s.idx b) p else s.idx b := by
  unfold deleteLabels
  simp only [Gen.annLabelDeleteRemovesAtPoint, Bool.true_and, decide_eq_true_eq]

theorem postLabels_inv (s : LSt) (new : List Elem) (hn : PosNodup new) (h : LInv2 s) : LInv2 (postLabels s new) := by
  obtain ⟨he, hi, hl⟩ := h
  rw [linv_iff] at hl
  refine ⟨(addList_spec he hn).1, fun b hb => ?_, (linv_iff _).2 fun b hb => ?_⟩
  · rw [postLabels_idx s new hb]
    exact (addList_spec (hi b hb) (posNodup_filter_map_nr hn _)).1
  · rw [postLabels_idx s new hb]
    exact (hl b hb).addList (hi b hb) he hn fun e n hp hs => hp ▸ hs

theorem deleteLabels_inv (s : LSt) (p : Pos) (h : LInv2 s) : LInv2 (deleteLabels s p) := by
  obtain ⟨he, hi, hl⟩ := h
  rw [linv_iff] at hl
  refine ⟨posNodup_removePos he p, fun b hb => ?_, (linv_iff _).2 fun b hb => ?_⟩
  · rw [deleteLabels_idx]
    exact posNodup_ite (posNodup_removePos (hi b hb) p) (hi b hb)
  · rw [deleteLabels_idx]
    exact (hl b hb).removePos_ite p _ fun hne e _ hs hp => hne (hp ▸ hs.symm)

end Labels

end Dvid.Props.C13
