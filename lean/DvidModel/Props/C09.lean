import DvidModel.Lemmas.Block
/-
  C09 — The compressed label block codec is lossless and its views agree.
  Proved, for all inputs: the bit-level contract of the packed index stream (`getPacked2_spec`; `put_get`, a copy
  of `getPacked2_putPacked2` in Lemmas/Block), the width function (`bitsFor_spec`), and the agreement of the point
  view (`Block.Value`, prefix sums over the sub-block table) with the streaming decoder (`MakeLabelVolume`) on every
  block that passes `wf`, the table check of multi-label blocks (no solid block does): `value_eq_decode_wf`.
  Left to the correspondence harness on the real code (DESIGN.md §4 C09): the whole-array round trip
  MakeBlock -> MakeLabelVolume, (un)marshalling, counts, RLE and binary-block views.
-/
namespace Dvid.Props.C09
open Dvid Dvid.Block

/-- `getPackedValue` returns exactly the `bits`-wide field that starts `bitPos` bits into the 16-bit word of the
    two bytes -/
theorem getPacked2_spec (b0 b1 bitPos bits : Nat) (h1 : b1 < 256) (hp : bitPos < 8) (hb : bitPos + bits ≤ 16) :
    getPacked2 b0 b1 bitPos bits = (b0 * 256 + b1) / 2 ^ (16 - bitPos - bits) % 2 ^ bits := by
  obtain ⟨hq, hr⟩ : (b0 * 256 + b1) / 2 ^ 8 = b0 ∧ (b0 * 256 + b1) % 2 ^ 8 = b1 := unpack h1 b0
  unfold getPacked2
  rw [and_mask b0 hp]
  split
  · -- one byte: a field of `b0`, which is the word divided by 2^8
    rw [Nat.shiftRight_eq_div_pow, slice b0 (by omega), show 16 - bitPos - bits = 8 + (8 - bitPos - bits) by omega,
      Nat.pow_add, ← Nat.div_div_eq_div_mul, hq]
  · -- two bytes: masking `b0` is taking the word modulo 2^(16 - bitPos)
    have hw : (b0 * 256 + b1) % 2 ^ (16 - bitPos) = b0 % 2 ^ (8 - bitPos) * 2 ^ 8 + b1 := by
      rw [show 16 - bitPos = 8 + (8 - bitPos) by omega, Nat.pow_add, ← be_digit, hq, hr]
    rw [← Nat.shiftLeft_add_eq_or_of_lt h1, Nat.shiftRight_eq_div_pow, Nat.shiftLeft_eq, ← hw, slice _ (by omega)]

/-- what the encoder writes at a bit position the decoder reads there, and the bits before it (the values already
    written) are untouched; `hz`: the bits from the position on are still 0, as the encoder fills a zeroed buffer
    front to back -/
theorem put_get (b0 b1 bitPos bits idx : Nat) (h0 : b0 < 256) (h1 : b1 < 256) (hp : bitPos < 8)
    (hb : bitPos + bits ≤ 16) (hi : idx < 2 ^ bits) (hz : b0 % 2 ^ (8 - bitPos) = 0) :
    getPacked2 (putPacked2 b0 b1 bitPos bits idx).1 (putPacked2 b0 b1 bitPos bits idx).2 bitPos bits = idx
    ∧ (putPacked2 b0 b1 bitPos bits idx).1 / 2 ^ (8 - bitPos) = b0 / 2 ^ (8 - bitPos) := by
  have _ := h0
  have _ := h1
  exact getPacked2_putPacked2 b0 b1 bitPos bits idx hp hb hi hz

/-- `bitsFor n` is the least width that tells `n` list positions apart, so at most `w` when `n ≤ 2^w` (9 for the
    at most 512 labels of a sub-block) -/
theorem bitsFor_spec (n w : Nat) (hw : w ≤ 17) (h : n ≤ 2 ^ w) :
    n ≤ 2 ^ bitsFor n ∧ (2 ≤ n → 2 ^ (bitsFor n - 1) < n) ∧ bitsFor n ≤ w := by
  by_cases h2 : 2 ≤ n
  · have h17 : n ≤ 2 ^ 17 := Nat.le_trans h (Nat.pow_le_pow_right (by omega) hw)
    obtain ⟨k, hk, hb⟩ := bitsForLoop_spec 17 (n - 1) 0
    rw [bitsFor, if_neg (by omega), hk, Nat.zero_add]
    cases k with
    | zero => omega  -- no such `n`: `hb` at `k = 0` needs `n - 1 < 1`
    | succ j =>
      rw [Nat.pow_succ] at hb ⊢
      rw [Nat.add_sub_cancel]
      have hjw : j < w := (Nat.pow_lt_pow_iff_right (by omega)).1 (show 2 ^ j < 2 ^ w by omega)
      omega
  · rw [(bitsFor_eq_zero_iff n).2 (by omega)]
    exact ⟨by omega, fun h => absurd h h2, Nat.zero_le w⟩

/-- the streaming decoder and the point lookup agree voxel by voxel when every sub-block lists a label; at one
    that lists none the decoder gives label 0 (`labelSB`) while the point lookup still reads the index list
    (`valueNat`, as `Block.Value` does for `bits == 0`) -/
theorem voxLabel_eq_value (b : Block) (hsz : b.numSB.size = b.gx * b.gy * b.gz)
    (hn : ∀ k, k < b.numSB.size → 1 ≤ b.numSB.getD k 0)
    (x y z : Nat) (hx : x < 8 * b.gx) (hy : y < 8 * b.gy) (hz : z < 8 * b.gz) :
    voxLabel b (startsArr b.numSB) x y z = valueNat b x y z := by
  by_cases h2 : 2 ≤ b.labels.size
  · have hk : sbNum b x y z < b.numSB.size := hsz ▸ sbNum_lt b x y z hx hy hz
    rw [voxLabel_multi b h2 x y z hk, valueNat_multi b h2, labelSB, if_neg (Nat.ne_of_gt (hn _ hk))]
  · unfold voxLabel valueNat
    by_cases h0 : b.labels.size = 0
    · simp [h0, Array.getD_eq_getD_getElem?]
    · simp [show b.labels.size = 1 by omega]

theorem value_eq_decode (b : Block) (hsz : b.numSB.size = b.gx * b.gy * b.gz)
    (hn : ∀ k, k < b.numSB.size → 1 ≤ b.numSB.getD k 0)
    (x y z : Nat) (hx : x < 8 * b.gx) (hy : y < 8 * b.gy) (hz : z < 8 * b.gz) :
    (decode b)[z * (8 * b.gx) * (8 * b.gy) + y * (8 * b.gx) + x]? = some (valueNat b x y z) := by
  obtain ⟨hlt, d1, d2, d3⟩ := lin_spec hx hy hz
  rw [Array.getElem?_eq_getElem (by rwa [size_decode]), decode_getElem, d1, d2, d3,
    voxLabel_eq_value b hsz hn x y z hx hy hz]

theorem value_eq_decode_wf (b : Block) (h : wf b = true)
    (x y z : Nat) (hx : x < 8 * b.gx) (hy : y < 8 * b.gy) (hz : z < 8 * b.gz) :
    (decode b)[z * (8 * b.gx) * (8 * b.gy) + y * (8 * b.gx) + x]? = some (value b x y z) := by
  obtain ⟨hsz, hsb, _⟩ := wf_spec b h
  rw [value_inside b x y z hx hy hz]
  exact value_eq_decode b hsz (fun k hk => (hsb k hk).1) x y z hx hy hz

/-- `Block.Value` answers 0 for a point outside the block, negative coordinates included, before it reads any table -/
theorem value_outside (b : Block) (x y z : Int)
    (h : x < 0 ∨ x ≥ 8 * b.gx ∨ y < 0 ∨ y ≥ 8 * b.gy ∨ z < 0 ∨ z ≥ 8 * b.gz) : value b x y z = 0 :=
  if_pos h

/-- the premises are satisfiable: a 16x8x8 block, first sub-block two labels (1 bit per voxel), second solid -/
def demo : Block := ⟨2, 1, 1, #[5, 7, 9], #[2, 1], #[0, 2, 1], Array.replicate 64 0xAA⟩

/-- The 512 reads of the value bytes are first rewritten by the lemma for reading a `replicate`: the kernel walks
    the underlying list once per `Array` read. -/
theorem demo_wf : wf demo = true := by
  unfold wf wfSB slotAt getPacked
  simp only [demo, Array.getD_eq_getD_getElem?, Array.getElem?_replicate]
  decide +kernel

example : wf demo = true := demo_wf
example : value demo 0 0 0 = 9 ∧ value demo 1 0 0 = 5 ∧ value demo 8 0 0 = 7 := by decide +kernel

end Dvid.Props.C09
