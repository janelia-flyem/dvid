import DvidModel.Model.Sched
import DvidModel.Gen.Locks
import DvidModel.Gen.Fixes
import DvidModel.Lemmas.List
/-
  C11 — Concurrent acknowledged mutations are never lost or half applied.

  Proved here, for any number of request handlers, any per-request update functions and EVERY schedule
  (preemption between any two steps): a read-modify-write sequence inside one critical section of one mutex is
  serializable (`covered_serializable`; the order is that of the writes); without the lock the schedule read, read,
  write, write loses an acknowledged update (`uncovered_loses_update`).
  Which read-modify-write sites of the code are covered (a write lock taken before the read and released after
  the write, on a mutex every handler of that datum shares) is regenerated from the source on every run
  (`Gen.Locks.sites`); `all_sites_covered` fails when one is not.
  PARTIAL: the model preempts at lock / read / write granularity; Go data races inside maps and slices, Badger's
  transaction isolation and the order of asynchronous sync events are outside it.  The harness forces the
  two-handler lost-update interleaving on the real code through yield points between the read and the write of
  every site (N handlers too), and compares the quiescent state with the sequential outcomes.
-/
namespace Dvid.Props.C11
open Dvid Dvid.Sched

variable {α : Type}

structure Inv (n : Nat) (f : Nat → α → α) (v0 : α) (s : St α) : Prop where
  holds : ∀ t, s.holder = some t → 1 ≤ (s.ths t).pc ∧ (s.ths t).pc ≤ 3
  inside : ∀ t, 1 ≤ (s.ths t).pc → (s.ths t).pc ≤ 3 → s.holder = some t
  cell : s.cell = sequential f v0 s.order
  fresh : ∀ t, (s.ths t).pc = 2 → (s.ths t).reg = s.cell
  wrote : ∀ t, t ∈ s.order ↔ 3 ≤ (s.ths t).pc
  nodup : s.order.Nodup
  outside : ∀ t, n ≤ t → (s.ths t).pc = 0

theorem init_inv (n : Nat) (f : Nat → α → α) (v0 : α) : Inv n f v0 (init v0) := by
  refine ⟨?_, ?_, rfl, ?_, ?_, List.nodup_nil, ?_⟩ <;> intro t <;> simp [init]

theorem sequential_snoc (f : Nat → α → α) (v0 : α) (order : List Nat) (t : Nat) :
    sequential f v0 (order ++ [t]) = f t (sequential f v0 order) :=
  List.foldl_append

/-- a covered step of handler `t`, all four program points in one formula, so that `step_inv` argues about the
    fields and never splits on the program point -/
theorem step_covered {n : Nat} {f : Nat → α → α} {s s' : St α} {t : Nat} (hs : step n f true s t = some s') :
    t < n ∧ (s.ths t).pc ≤ 3 ∧ ((s.ths t).pc = 0 → s.holder = none) ∧
    s'.cell = (if (s.ths t).pc = 2 then f t (s.ths t).reg else s.cell) ∧
    s'.holder = (if (s.ths t).pc = 0 then some t else if (s.ths t).pc = 3 then none else s.holder) ∧
    s'.order = (if (s.ths t).pc = 2 then s.order ++ [t] else s.order) ∧
    (s'.ths t).pc = (s.ths t).pc + 1 ∧ ((s.ths t).pc = 1 → (s'.ths t).reg = s.cell) ∧
    ∀ u, u ≠ t → s'.ths u = s.ths u := by
  unfold step at hs
  split at hs
  · cases hs
  next htn =>
    have htn := Nat.lt_of_not_ge htn
    have hself : ∀ (s0 : St α) (th : Th α), (s0.setTh t th).ths t = th := fun _ _ => if_pos rfl
    have hoth : ∀ (s0 : St α) (th : Th α) u, u ≠ t → (s0.setTh t th).ths u = s0.ths u := fun _ _ _ hu => if_neg hu
    simp only [↓reduceIte] at hs  -- `covered` is `true`; `th` is inlined, so the scrutinee is `(s.ths t).pc`
    generalize (s.ths t).pc = pc at hs ⊢
    -- at each program point `s'` is explicit and the formula computes (`rfl`, `decide`, `nofun`); only the free lock at 0
    -- (`hfree`) and the register at 1 need a hypothesis
    match pc, hs with
    | 0, hs =>
      simp only at hs
      split at hs
      · cases hs
      next hfree =>
        cases hs
        exact ⟨htn, by decide, fun _ => hfree, rfl, rfl, rfl, congrArg Th.pc (hself _ _), nofun, hoth _ _⟩
    | 1, hs =>
      cases hs
      exact ⟨htn, by decide, nofun, rfl, rfl, rfl, congrArg Th.pc (hself _ _), fun _ => congrArg Th.reg (hself _ _),
        hoth _ _⟩
    | 2, hs | 3, hs =>
      cases hs
      exact ⟨htn, by decide, nofun, rfl, rfl, rfl, congrArg Th.pc (hself _ _), nofun, hoth _ _⟩
    | _ + 4, hs => cases hs

theorem step_inv {n : Nat} {f : Nat → α → α} {v0 : α} {s s' : St α} {t : Nat} (h : Inv n f v0 s)
    (hs : step n f true s t = some s') : Inv n f v0 s' := by
  obtain ⟨htn, hp3, hfree, hcell, hhold, hord, hpc, hreg, hoth⟩ := step_covered hs
  have hme : (s.ths t).pc ≠ 0 → s.holder = some t := fun h0 => h.inside t (Nat.pos_of_ne_zero h0) hp3
  -- the lock is free, or `t` holds it
  have hout : ∀ u, u ≠ t → 1 ≤ (s.ths u).pc → (s.ths u).pc ≤ 3 → False := by
    intro u hu h1 h3
    have hh := h.inside u h1 h3
    by_cases h0 : (s.ths t).pc = 0
    · rw [hfree h0] at hh
      cases hh
    · rw [hme h0] at hh
      exact hu (Option.some.inj hh).symm
  have hhold' : s'.holder = if (s.ths t).pc = 3 then none else some t := by
    rw [hhold]
    split
    next h0 => rw [if_neg (h0 ▸ by decide)]
    next hn0 => rw [hme hn0]
  refine { holds := fun u hu => ?holds, inside := fun u h1 h3 => ?inside, cell := ?cell, fresh := fun u hu => ?fresh,
           wrote := fun u => ?wrote, nodup := ?nodup, outside := fun u hu => ?outside }
  case holds =>
    rw [hhold'] at hu
    split at hu
    · cases hu
    next h3 =>
      cases hu
      rw [hpc]
      exact ⟨Nat.le_add_left 1 _, Nat.lt_of_le_of_ne hp3 h3⟩
  case inside =>
    by_cases hu : u = t
    · subst hu
      rw [hpc] at h3
      rw [hhold', if_neg (Nat.ne_of_lt h3)]
    · rw [hoth u hu] at h1 h3
      exact (hout u hu h1 h3).elim
  case cell =>
    rw [hcell, hord]
    split
    next h2 => rw [sequential_snoc, ← h.cell, h.fresh t h2]
    · exact h.cell
  case fresh =>
    by_cases hut : u = t
    · subst hut
      rw [hpc] at hu
      have h1 : (s.ths u).pc = 1 := Nat.succ.inj hu
      rw [hreg h1, hcell, if_neg (h1 ▸ by decide)]
    · rw [hoth u hut] at hu
      exact (hout u hut (hu ▸ by decide) (hu ▸ by decide)).elim
  case wrote =>
    have hmem : u ∈ s'.order ↔ u ∈ s.order ∨ (u = t ∧ (s.ths t).pc = 2) := by
      rw [hord]
      split
      next h2 => rw [List.mem_append, List.mem_singleton, and_iff_left h2]
      next h2 => rw [iff_false_intro h2, and_false, or_false]
    rw [hmem, h.wrote u]
    by_cases hut : u = t
    · subst hut
      rw [hpc, and_iff_right rfl]
      omega
    · rw [hoth u hut, iff_false_intro hut, false_and, or_false]
  case nodup =>
    rw [hord]
    split
    next h2 => exact nodup_snoc.2 ⟨h.nodup, fun ht => absurd ((h.wrote t).1 ht) (h2 ▸ by decide)⟩
    · exact h.nodup
  case outside =>
    rw [hoth u (Nat.ne_of_gt (Nat.lt_of_lt_of_le htn hu))]
    exact h.outside u hu

theorem exec_inv {n : Nat} {f : Nat → α → α} {v0 : α} {sched : List Nat} {s s' : St α} (h : Inv n f v0 s)
    (he : exec n f true s sched = some s') : Inv n f v0 s' := by
  induction sched generalizing s with
  | nil => exact Option.some.inj he ▸ h
  | cons t ts ih =>
    unfold exec at he
    split at he
    · cases he
    next s1 hs1 =>
      exact ih (step_inv h hs1) he

/-- **a covered read-modify-write is serializable**: for every number of handlers, every update functions and
    every schedule, when all handlers have finished the shared value is the result of running the requests one
    after the other in some order, each exactly once -/
theorem covered_serializable (n : Nat) (f : Nat → α → α) (v0 : α) (sched : List Nat) (s : St α)
    (he : exec n f true (init v0) sched = some s) (hdone : ∀ t, t < n → (s.ths t).pc = 4) :
    ∃ order : List Nat, order.Nodup ∧ (∀ t, t ∈ order ↔ t < n) ∧ s.cell = sequential f v0 order := by
  have h := exec_inv (init_inv n f v0) he
  refine ⟨s.order, h.nodup, ?_, h.cell⟩
  intro t
  constructor
  · intro hm
    have h3 := (h.wrote t).1 hm
    refine Decidable.by_contra fun hlt => ?_
    have h0 := h.outside t (Nat.le_of_not_lt hlt)
    omega
  · intro hlt
    rw [h.wrote t, hdone t hlt]
    decide

/-- **without the lock an acknowledged update is lost**: two handlers that each add 1, schedule
    read₀ read₁ write₁ … write₀: both finish, the value is 1, every sequential order gives 2 -/
theorem uncovered_loses_update :
    (exec 2 (fun _ v => v + 1) false (init (0 : Nat)) [0, 0, 1, 1, 1, 1, 0, 0]).map (fun s => (s.cell, (s.ths 0).pc, (s.ths 1).pc))
      = some (1, 4, 4) ∧
    sequential (fun _ v => v + 1) (0 : Nat) [0, 1] = 2 ∧ sequential (fun _ v => v + 1) (0 : Nat) [1, 0] = 2 := by
  decide

/-- the same schedule is not executable when the sequence is covered: the second handler cannot take the lock -/
theorem covered_blocks_that_schedule :
    (exec 2 (fun _ v => v + 1) true (init (0 : Nat)) [0, 0, 1, 1, 1, 1, 0, 0]).isNone = true := by decide

theorem all_sites_covered : ∀ site ∈ Gen.Locks.sites, site.2 = true := by decide

example : Gen.Locks.sites.length ≥ 8 := by decide

/-- the repaired shape of saveToStore / GobEncode is present: the repo read lock is not taken twice -/
theorem repaired_shape_present : Gen.saveDoesNotNestReadLock = true := by decide

end Dvid.Props.C11
