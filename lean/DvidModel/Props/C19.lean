import DvidModel.Model.Copy
import DvidModel.Props.C01
/-
  C19 — Copying a data instance preserves its versioned content.
  Proved here over the raw-store model: a full copy reads like the source at every version of every DAG
  (`copy_reads_equal`), a flattened copy at version v reads at v as the source does (`flatten_read_at_v`), and
  either leaves the source's reads unchanged.  The shape of copyData (which range is scanned, that keys are rewritten
  before being stored, that the flattened copy resolves and stores at the copy's version) is regenerated from the Go
  source on every run.  The harness compares reads through the endpoints of keyvalue, annotation, roi and uint8blk
  on real stores (DESIGN.md §4 C19).
-/
namespace Dvid.Props.C19
open Dvid Dvid.Key Dvid.Store Dvid.Resolve Dvid.Copy

theorem instanceOf_dataKey (i v c : Nat) (tk : Bytes) (tomb : Bool) (hi : U32 i) :
    instanceOf (dataKey i v c tk tomb) = some i := by
  rw [instanceOf, dataKeyToLocalIDs_dataKey, Nat.mod_eq_of_lt hi]
  rfl

theorem changeInstance_dataKey (i j v c : Nat) (tk : Bytes) (tomb : Bool) :
    changeInstance (dataKey j v c tk tomb) i = some (dataKey i v c tk tomb) := by
  have hlen : 1 + Gen.instanceIDSize ≤ (dataKey j v c tk tomb).length :=
    Nat.le_trans (by decide) (dataKey_min_length j v c tk tomb)
  simp only [changeInstance, dataKey_head, beq_self_eq_true, hlen, and_self, if_true]
  rw [dataKey_eq, dataKey_eq, unversionedKeyPrefix_eq, unversionedKeyPrefix_eq]
  rfl  -- `be32` is a four-byte literal: `take 1` and `drop 5` compute

theorem changeInstance_roundtrip (i j v c : Nat) (tk : Bytes) (tomb : Bool) :
    (changeInstance (dataKey i v c tk tomb) j).bind (changeInstance · i) = some (dataKey i v c tk tomb) := by
  rw [changeInstance_dataKey, Option.bind_some, changeInstance_dataKey]

/-- no `U32 v`: a read walks all ancestors of its version, whatever their ids, and a key depends on the id modulo 2^32
    only; likewise `flatten_dataKey` -/
theorem copyRaw_at (s : KV) (i j v : Nat) (tk : Bytes) (tomb : Bool) (hj : U32 j) :
    copyRaw s i j (dataKey j v 0 tk tomb) = s (dataKey i v 0 tk tomb) := by
  rw [copyRaw, instanceOf_dataKey j v 0 tk tomb hj, changeInstance_dataKey, if_pos rfl]
  rfl

theorem copyRaw_source (s : KV) (i j v : Nat) (tk : Bytes) (tomb : Bool) (hi : U32 i) (hne : i ≠ j) :
    copyRaw s i j (dataKey i v 0 tk tomb) = s (dataKey i v 0 tk tomb) := by
  rw [copyRaw, instanceOf_dataKey i v 0 tk tomb hi, if_neg (fun h => hne (Option.some.inj h))]

/-- `copyRaw` is the store after a full copy, given key by key; the scan-and-put loop is not modelled -/
theorem copy_reads_equal (d : Dag) (s : KV) (i j : Nat) (tk : Bytes) (v : Nat) (hj : U32 j) :
    getV d (copyRaw s i j) j tk v = getV d s i tk v :=
  C01.getV_congr d s _ i j tk v (fun w _ tomb => copyRaw_at s i j w tk tomb hj)

theorem copy_source_unchanged (d : Dag) (s : KV) (i j : Nat) (tk : Bytes) (v : Nat) (hi : U32 i) (hne : i ≠ j) :
    getV d (copyRaw s i j) i tk v = getV d s i tk v :=
  C01.getV_congr d s _ i i tk v (fun w _ tomb => copyRaw_source s i j w tk tomb hi hne)

/-- concrete instance: a value at version 2 and a tombstone at version 3 of instance 5 appear under instance 6 -/
example :
    let s := KV.set (KV.set empty (dataKey 5 2 0 [7, 3] false) [9]) (dataKey 5 3 0 [7, 3] true) []
    copyRaw s 5 6 (dataKey 6 2 0 [7, 3] false) = some [9] ∧ copyRaw s 5 6 (dataKey 6 3 0 [7, 3] true) = some [] ∧
    copyRaw s 5 6 (dataKey 6 3 0 [7, 3] false) = none := by decide

theorem flatten_dataKey (d : Dag) (s : KV) (i j v w : Nat) (tk : Bytes) (tomb : Bool) (hj : U32 j) :
    flatten d s i j v (dataKey j w 0 tk tomb) =
      if w % 4294967296 = v ∧ tomb = false then getV d s i tk v else none := by
  rw [flatten, instanceOf_dataKey j w 0 tk tomb hj, dataKeyToLocalIDs_dataKey, tkeyFromKey_dataKey, isTombstone_dataKey]
  cases tomb <;> simp [Gen.copyFlattenResolvesAtCtx]

/-- what the flattened copy holds for a datum under the keys of client 0 and 32-bit versions: the value resolved at v,
    stored at v, nothing else -/
theorem flatten_at (d : Dag) (s : KV) (i j v w : Nat) (tk : Bytes) (tomb : Bool) (hj : U32 j) (_hv : U32 v) (hw : U32 w) :
    flatten d s i j v (dataKey j w 0 tk tomb) = if w = v ∧ tomb = false then getV d s i tk v else none := by
  rw [flatten_dataKey d s i j v w tk tomb hj, Nat.mod_eq_of_lt hw]

theorem flatten_read_at_v (d : Dag) (s : KV) (i j v : Nat) (tk : Bytes) (hj : U32 j) (hv : U32 v) :
    getV d (flatten d s i j v) j tk v = getV d s i tk v := by
  have hF := fun w tomb => flatten_dataKey d s i j v w tk tomb hj
  cases hsrc : getV d s i tk v with
  | some val =>
    exact C01.getV_own d ((hF v true).trans (if_neg fun h => nomatch h.2))
      ((hF v false).trans ((if_pos ⟨Nat.mod_eq_of_lt hv, rfl⟩).trans hsrc))
  | none =>
    -- the copy holds no value key of this datum
    exact C01.getV_none d _ j tk v fun a _ => by rw [hF a false, hsrc, ite_self]

theorem flatten_source_unchanged (d : Dag) (s : KV) (i j v : Nat) (tk : Bytes) (w : Nat) (hi : U32 i) (hne : i ≠ j) :
    getV d (flatten d s i j v) i tk w = getV d s i tk w := by
  apply C01.getV_congr
  intro x _ tomb
  rw [flatten, instanceOf_dataKey i x 0 tk tomb hi, if_neg (fun h => hne (Option.some.inj h))]

end Dvid.Props.C19
