import DvidModel.Model.Range
import DvidModel.Props.C01
import DvidModel.Props.C06
/-
  C05 — Range and listing queries agree with point reads.
  Proved here: (1) the per-datum step of a range scan (`sendKV` on a group) is the resolution a point read performs
  where group and store agree at the queried version and its ancestors (`sendKV_eq_point`; `range_err_iff_point_err`
  asks more, see there);
  (2) key-value datum keys made from NUL-free strings are pairwise prefix-free and sort like the strings, so C06's
  contiguity and order theorems apply (`kvTKey_order`, `kv_versions_contiguous`);
  (3) the prefix-free hypothesis is necessary (`range_prefix_counterexample`; the harness runs the real code at that
  excluded point);
  (4) `DeleteRange`: `deleteRange_success_complete`, `deleteRange_commits_all`;
  (5) the grouping loop: `versionedRange_eq_groups`, under the hypothesis (`Chain`) that the iterator delivers the
  groups of distinct datums in scan order.  C06 `versions_in_bracket` and `later_datum_beyond_bracket` would
  discharge it for real keys; no theorem here does.  The loop's mirror is tied to the code by differential execution
  on raw key dumps.
-/
namespace Dvid.Props.C05
open Dvid Dvid.Key Dvid.Resolve Dvid.Range Dvid.Store

/-- One datum of a range scan against a point read: where its group's version map agrees with what the store holds
    for datum `(i, tk)` at `v` and every ancestor of `v` (the versions a read at `v` consults: locality), `sendKV`
    resolves it as the point read does and emits the key of the version resolved to. -/
theorem sendKV_eq_point (d : Dag) (s : KV) (i v : Nat) (tk : Bytes) (grp : List Bytes) (hne : grp ≠ [])
    (h : ∀ a, Anc d v a → (groupEntries grp a).map (·.2) = entryAt s i tk a) :
    sendKV d v grp =
      match readAt d (entryAt s i tk) v with
      | .found a _ => match groupEntries grp a with
                      | some (k, _) => [.kv k]
                      | none => []
      | .none => []
      | .err => [.err] := by
  have hemp : grp.isEmpty = false := List.isEmpty_eq_false_iff.mpr hne
  unfold sendKV
  simp only [hemp]
  rw [C01.read_locality d _ (entryAt s i tk) v h]
  rfl

/-- a range scan fails on a datum exactly when the point read of that datum fails (a conflict left behind by
    a "conflict-free" merge).  `sendKV_eq_point` needs agreement at `v` and its ancestors only; `h` asks it at every
    natural `ver`, and as `versionFromKey` is below 2^32 while keys hold versions modulo 2^32, at `ver ≥ 2^32` that
    demands that `s` hold no key of datum `(i, tk)` at all.
    Depends on the regenerated fact that `GetBestKeyVersion` propagates the resolver's error. -/
theorem range_err_iff_point_err (d : Dag) (s : KV) (i v : Nat) (tk : Bytes) (grp : List Bytes) (hne : grp ≠ [])
    (h : ∀ ver, (groupEntries grp ver).map (·.2) = entryAt s i tk ver) :
    sendKV d v grp = [.err] ↔ pointRead d (entryAt s i tk) v = .err := by
  rw [sendKV_eq_point d s i v tk grp hne fun a _ => h a]
  unfold pointRead
  cases hr : readAt d (entryAt s i tk) v with
  | none => simp
  | err => simp [Gen.bestKeyPropagatesError]
  | found a x =>
    simp only
    cases groupEntries grp a <;> simp

theorem sendKV_nil (d : Dag) (v : Nat) : sendKV d v [] = [] := by simp [sendKV]

theorem sendKV_length_le_one (d : Dag) (v : Nat) (grp : List Bytes) : (sendKV d v grp).length ≤ 1 := by
  unfold sendKV
  split
  · simp
  · simp only
    split
    · split <;> simp
    · simp
    · simp

/-- `keyvalue.NewTKey(key)`: class byte 177, the standard byte, the key, a terminating 0x00 -/
def kvTKey (key : Bytes) : Bytes := newTKey 177 (key ++ [0])

/-- the terminator is below every byte of a NUL-free string, so the string that ends first is still the smaller -/
theorem cmpBytes_terminated (k k' : Bytes) (h : (0 : UInt8) ∉ k) (h' : (0 : UInt8) ∉ k') :
    cmpBytes (k ++ [0]) (k' ++ [0]) = cmpBytes k k' := by
  induction k generalizing k' with
  | nil =>
    cases k' with
    | nil => rfl
    | cons b bs => exact cmpBytes_cons_lt (UInt8.pos_iff_ne_zero.mpr (List.ne_of_not_mem_cons h').symm)
  | cons a as ih =>
    cases k' with
    | nil => exact cmpBytes_cons_gt (UInt8.pos_iff_ne_zero.mpr (List.ne_of_not_mem_cons h).symm)
    | cons b bs =>
      simp only [List.cons_append, cmpBytes]
      rw [ih bs (List.not_mem_of_not_mem_cons h) (List.not_mem_of_not_mem_cons h')]

theorem kvTKey_order (k k' : Bytes) (h : (0 : UInt8) ∉ k) (h' : (0 : UInt8) ∉ k') :
    cmpBytes (kvTKey k) (kvTKey k') = cmpBytes k k' := by
  rw [kvTKey, kvTKey, newTKey, newTKey, cmpBytes_cons_self, cmpBytes_cons_self]
  exact cmpBytes_terminated k k' h h'

theorem takeWhile_terminated (k t : Bytes) (h : (0 : UInt8) ∉ k) : (k ++ 0 :: t).takeWhile (· != 0) = k := by
  have hk : ∀ a ∈ k, (a != 0) = true := fun a ha => bne_iff_ne.mpr (fun e => h (e ▸ ha))
  rw [List.takeWhile_append_of_pos hk, List.takeWhile_cons_of_neg (by simp), List.append_nil]

theorem terminated_prefix {k k' : Bytes} (h : (0 : UInt8) ∉ k) (h' : (0 : UInt8) ∉ k')
    (hp : (k ++ [0]) <+: (k' ++ [0])) : k = k' := by
  obtain ⟨t, ht⟩ := hp
  rw [← takeWhile_terminated k t h, ← takeWhile_terminated k' [] h', ← ht, List.append_assoc]
  rfl

/-- the documented TKey rule holds for the key-value type on NUL-free keys — also when one *string* is a prefix of the
    other ("a" / "ab"): that is what the terminator is for -/
theorem kvTKey_noPrefix (k k' : Bytes) (h : (0 : UInt8) ∉ k) (h' : (0 : UInt8) ∉ k') (hne : k ≠ k') :
    NoPrefix (kvTKey k) (kvTKey k') := by
  simp only [NoPrefix, kvTKey, newTKey, List.cons_prefix_cons, true_and]
  exact ⟨fun hp => hne (terminated_prefix h h' hp), fun hp => hne (terminated_prefix h' h hp).symm⟩

/-- that keys containing the terminator byte are rejected is a regenerated fact about `keyvalue.NewTKey` -/
theorem kvNewTKey_some {k t : Bytes} (h : kvNewTKey k = some t) : (0 : UInt8) ∉ k ∧ t = kvTKey k := by
  simp only [kvNewTKey, Gen.kvRejectsNul, Bool.true_and] at h
  split at h
  · cases h
  next hk => exact ⟨fun x => hk (List.contains_iff_mem.mpr x), (Option.some.inj h).symm⟩

theorem kv_api_keys_prefix_free (k k' t t' : Bytes) (h : kvNewTKey k = some t) (h' : kvNewTKey k' = some t')
    (hne : k ≠ k') : NoPrefix t t' := by
  obtain ⟨n, rfl⟩ := kvNewTKey_some h
  obtain ⟨n', rfl⟩ := kvNewTKey_some h'
  exact kvTKey_noPrefix k k' n n' hne

/-- `C06.versions_contiguous` instantiated -/
theorem kv_versions_contiguous (i v' c' : Nat) (k k' : Bytes) (m' : Bool) (hi : U32 i)
    (h : (0 : UInt8) ∉ k) (h' : (0 : UInt8) ∉ k')
    (hlo : bytesLE (minVersionKey i (kvTKey k)) (dataKey i v' c' (kvTKey k') m') = true)
    (hhi : bytesLE (dataKey i v' c' (kvTKey k') m') (maxVersionKey i (kvTKey k)) = true) : k' = k := by
  by_cases e : k = k'
  · exact e.symm
  · have hn := kvTKey_noPrefix k k' h h' e
    have heq : kvTKey k' = kvTKey k :=
      (C06.versions_contiguous i i v' c' (kvTKey k) (kvTKey k') m' hi hi (Or.inr hn) hlo hhi).2
    exact absurd (heq ▸ List.prefix_rfl) hn.1

/-- **The prefix-free hypothesis is necessary.**  Datum keys `a\0` and `a\0b\0` (the key-value encoding of the strings
    "a" and "a\0b") are prefix-related; the scan puts their entries into one group, and a group resolves to the last
    entry of a version: the tombstone of "a\0b" at version 1 hides the live value of "a"; the listing there is empty. -/
theorem range_prefix_counterexample :
    let d := Dag.ofList [[], []]
    let ka := kvTKey [97]
    let kab := kvTKey [97, 0, 98]
    let raw := [constructDataKey 1 1 0 ka, tombstoneKey 1 1 0 kab]
    keysInRange d 1 1 (minTKey 177) (maxTKey 177) raw = some [] := by
  decide

/-- `DeleteRange` reporting success means every datum the scan produced was tombstoned: a scan error is never
    swallowed.  Depends on the regenerated fact about the order of the two checks in its loop. -/
theorem deleteRange_success_complete (items : List Item) (h : (deleteRangeConsume items).1 = true) :
    ∀ k tk, Item.kv k ∈ items → tkeyFromKey k = some tk → tk ∈ (deleteRangeConsume items).2 := by
  induction items with
  | nil => exact fun k tk hk => nomatch hk
  | cons it rest ih =>
    intro k tk hk htk
    cases it with
    | err => simp [deleteRangeConsume, Gen.deleteRangeChecksErrorFirst] at h
    | kv k0 =>
      simp only [deleteRangeConsume] at h ⊢
      rcases List.mem_cons.mp hk with e | e
      · cases e
        simp [htk]
      · have := ih h k tk e htk
        cases tkeyFromKey k0 <;> simp [this]

/-- invariant of `DeleteRange`'s batching loop: nothing is dropped, and the open batch is empty whenever the number
    of keys seen is a multiple of the batch size — where the trailing commit is skipped -/
theorem batch_inv (B n : Nat) :
    let s := (List.range n).foldl (fun s _ => Range.batchStep B s) (⟨0, 0, 0⟩ : Range.Batching)
    s.numKV = n ∧ s.committed + s.pending = n ∧ (n % B = 0 → s.pending = 0) := by
  induction n with
  | zero => exact ⟨rfl, rfl, fun _ => rfl⟩
  | succ n ih =>
    simp only [List.range_succ, List.foldl_append, List.foldl_cons, List.foldl_nil]
    obtain ⟨h1, h2, _⟩ := ih
    generalize (List.range n).foldl (fun s _ => Range.batchStep B s) (⟨0, 0, 0⟩ : Range.Batching) = s at *
    simp only [Range.batchStep, Gen.deleteRangeFlushesAfterAdd, ↓reduceIte, h1]
    split
    · exact ⟨rfl, show s.committed + s.pending + 1 + 0 = n + 1 by omega, fun _ => rfl⟩
    next hm => exact ⟨rfl, show s.committed + (s.pending + 1) = n + 1 by omega, fun h => absurd h hm⟩

theorem deleteRangeCommitted_eq (B n : Nat) : Range.deleteRangeCommitted B n = n := by
  obtain ⟨h1, h2, h3⟩ := batch_inv B n
  simp only [Range.deleteRangeCommitted, h1]
  split
  · exact h2
  next h => rwa [h3 (Decidable.not_not.mp h)] at h2

/-- **every delete of a `DeleteRange` reaches a committed batch**, for every number of keys in the range —
    exact multiples of the batch size included -/
theorem deleteRange_commits_all (n : Nat) : Range.deleteRangeCommitted Gen.deleteRangeBatchSize n = n :=
  deleteRangeCommitted_eq Gen.deleteRangeBatchSize n

/-! ### the grouping loop of `versionedRange` -/

/-- `g = (tk, ks)`: `ks` is a non-empty run of data keys of datum `tk`, none beyond the version bracket of `tk` -/
def GroupOK (i : Nat) (g : Bytes × List Bytes) : Prop :=
  g.2 ≠ [] ∧ ∀ k ∈ g.2, isDataKey k = true ∧ tkeyFromKey k = some g.1 ∧ cmpBytes k (maxVersionKey i g.1) ≠ .gt

/-- groups in scan order: every key of a later group lies beyond the version bracket of each earlier group's datum -/
def Chain (i : Nat) : List (Bytes × List Bytes) → Prop
  | [] => True
  | g :: rest => GroupOK i g ∧ (∀ g' ∈ rest, ∀ k ∈ g'.2, cmpBytes k (maxVersionKey i g.1) = .gt) ∧ Chain i rest

/-- what the scan has emitted once the iterator is exhausted -/
def final (d : Dag) (v : Nat) (st : St) : List Item := if st.done then st.out else st.out ++ sendKV d v st.values

theorem fold_done (d : Dag) (i v : Nat) (maxKey : Bytes) (ks : List Bytes) (st : St) (h : st.done = true) :
    ks.foldl (stepKey d i v maxKey) st = st := by
  induction ks with
  | nil => rfl
  | cons k rest ih =>
    simp only [List.foldl_cons, stepKey, h, if_true]
    exact ih

theorem fold_collect (d : Dag) (i v : Nat) (maxKey : Bytes) (ks : List Bytes) :
    ∀ st : St, st.done = false → (∀ k ∈ ks, cmpBytes k st.maxVK ≠ .gt ∧ cmpBytes k maxKey ≠ .gt) →
      ks.foldl (stepKey d i v maxKey) st = { st with values := st.values ++ ks } := by
  induction ks with
  | nil =>
    intro st _ _
    simp
  | cons k rest ih =>
    intro st hd h
    obtain ⟨h1, h2⟩ := h k List.mem_cons_self
    have hs : stepKey d i v maxKey st k = { st with values := st.values ++ [k] } := by
      unfold stepKey
      simp only [hd, Bool.false_eq_true, if_false, beq_iff_eq, h1, h2]
    simp only [List.foldl_cons, hs]
    rw [ih { st with values := st.values ++ [k] } hd (fun k' hk' => h k' (List.mem_cons_of_mem k hk'))]
    simp

theorem fold_group (d : Dag) (i v : Nat) (maxKey : Bytes) (g : Bytes × List Bytes) (st : St) (hd : st.done = false)
    (hg : GroupOK i g) (hnew : ∀ k ∈ g.2, cmpBytes k st.maxVK = .gt) (hin : ∀ k ∈ g.2, cmpBytes k maxKey ≠ .gt) :
    g.2.foldl (stepKey d i v maxKey) st =
      { maxVK := maxVersionKey i g.1, values := g.2, out := st.out ++ sendKV d v st.values, done := false } := by
  obtain ⟨tk, ks⟩ := g
  cases ks with
  | nil => exact absurd rfl hg.1
  | cons k rest =>
    -- the first key lies beyond the open bracket: it flushes the group before it and opens its own, which then
    -- collects the rest
    obtain ⟨hdk, htk, _⟩ := hg.2 k List.mem_cons_self
    have hs : stepKey d i v maxKey st k =
        { maxVK := maxVersionKey i tk, values := [k], out := st.out ++ sendKV d v st.values, done := false } := by
      unfold stepKey
      simp only [hd, Bool.false_eq_true, if_false, hnew k List.mem_cons_self, beq_self_eq_true, if_true, hdk, htk,
        beq_iff_eq, hin k List.mem_cons_self, List.nil_append]
    simp only [List.foldl_cons, hs]
    rw [fold_collect d i v maxKey rest _ rfl (fun k' hk' =>
      ⟨(hg.2 k' (List.mem_cons_of_mem k hk')).2.2, hin k' (List.mem_cons_of_mem k hk')⟩)]
    simp

theorem fold_outside (d : Dag) (i v : Nat) (maxKey : Bytes) (st : St) (k : Bytes) (rest : List Bytes)
    (hd : st.done = false) (hout : cmpBytes k maxKey = .gt) :
    final d v ((k :: rest).foldl (stepKey d i v maxKey) st) = st.out ++ sendKV d v st.values := by
  have hs : (stepKey d i v maxKey st k).done = true ∧
      (stepKey d i v maxKey st k).out = st.out ++ sendKV d v st.values := by
    unfold stepKey
    simp only [hd, Bool.false_eq_true, if_false, hout, beq_self_eq_true, if_true]
    -- whether or not `k` also closes the open bracket, the values held are flushed exactly once
    split
    · simp [sendKV_nil]
    · simp
  rw [List.foldl_cons, fold_done d i v maxKey rest _ hs.1, final, if_pos hs.1, hs.2]

theorem scan_groups (d : Dag) (i v : Nat) (maxKey : Bytes) (ins outs : List (Bytes × List Bytes)) :
    ∀ st : St, st.done = false → Chain i (ins ++ outs) →
      (∀ g ∈ ins ++ outs, ∀ k ∈ g.2, cmpBytes k st.maxVK = .gt) →
      (∀ g ∈ ins, ∀ k ∈ g.2, cmpBytes k maxKey ≠ .gt) → (∀ g ∈ outs, ∀ k ∈ g.2, cmpBytes k maxKey = .gt) →
      final d v (((ins ++ outs).flatMap (·.2)).foldl (stepKey d i v maxKey) st) =
        st.out ++ sendKV d v st.values ++ ins.flatMap (fun g => sendKV d v g.2) := by
  -- `ins`: the groups up to `maxKey`, each flushed by the first key of the next (the last by `final` if nothing
  -- follows); `outs`: those beyond it, whose first key ends the scan
  induction ins with
  | nil =>
    intro st hd hc _ _ hout
    rw [List.nil_append, List.flatMap_nil, List.append_nil]
    match outs, hc, hout with
    | [], _, _ => simp [final, hd]
    | (tk, []) :: _, hc, _ => exact absurd rfl hc.1.1
    | (tk, k :: ks) :: rest, _, hout =>
      exact fold_outside d i v maxKey st k _ hd (hout (tk, k :: ks) List.mem_cons_self k List.mem_cons_self)
  | cons g ins' ih =>
    intro st hd hc hnew hin hout
    -- the chain's "later keys lie beyond the bracket of `g`" (`hc.2.1`) is `hnew` for the state after `g`
    rw [List.cons_append, List.flatMap_cons, List.foldl_append,
      fold_group d i v maxKey g st hd hc.1 (hnew g List.mem_cons_self) (hin g List.mem_cons_self),
      ih _ rfl hc.2.2 hc.2.1 (fun g' hg' => hin g' (List.mem_cons_of_mem g hg')) hout, List.flatMap_cons]
    simp only [List.append_assoc]

/-- `versionedRange_eq_groups` is the case `ks = []`.  A scan may start inside a datum: the keys `ks` that
    `Seek(minKey)` lands on first lie inside the initial bracket (that of `beg`) and are resolved as a group of their
    own, ahead of the others -/
theorem versionedRange_eq_groups_from_beg (d : Dag) (i v : Nat) (beg fin : Bytes) (raw : List Bytes)
    (ks : List Bytes) (ins outs : List (Bytes × List Bytes))
    (hstart : raw.dropWhile (fun k => cmpBytes k (minVersionKey i beg) == .lt) = ks ++ (ins ++ outs).flatMap (·.2))
    (hks : ∀ k ∈ ks, cmpBytes k (maxVersionKey i beg) ≠ .gt ∧ cmpBytes k (maxVersionKey i fin) ≠ .gt)
    (hc : Chain i (ins ++ outs))
    (hnew : ∀ g ∈ ins ++ outs, ∀ k ∈ g.2, cmpBytes k (maxVersionKey i beg) = .gt)
    (hin : ∀ g ∈ ins, ∀ k ∈ g.2, cmpBytes k (maxVersionKey i fin) ≠ .gt)
    (hout : ∀ g ∈ outs, ∀ k ∈ g.2, cmpBytes k (maxVersionKey i fin) = .gt) :
    versionedRange d i v beg fin raw = sendKV d v ks ++ ins.flatMap (fun g => sendKV d v g.2) := by
  unfold versionedRange
  simp only [hstart, List.foldl_append]
  rw [fold_collect d i v (maxVersionKey i fin) ks _ rfl hks]
  exact scan_groups d i v (maxVersionKey i fin) ins outs
    { maxVK := maxVersionKey i beg, values := [] ++ ks, out := [], done := false } rfl hc hnew hin hout

/-- **`versionedRange` = group by datum, resolve each group**: when the keys the iterator delivers from
    `Seek(minKey)` on are the groups of distinct datums in scan order (`Chain`: assumed, see the header), `ins` the
    datums up to the end of the range and `outs` those beyond it, the scan emits exactly the resolution of every
    datum of the range, in order -/
theorem versionedRange_eq_groups (d : Dag) (i v : Nat) (beg fin : Bytes) (raw : List Bytes)
    (ins outs : List (Bytes × List Bytes))
    (hstart : raw.dropWhile (fun k => cmpBytes k (minVersionKey i beg) == .lt) = (ins ++ outs).flatMap (·.2))
    (hc : Chain i (ins ++ outs))
    (hnew : ∀ g ∈ ins ++ outs, ∀ k ∈ g.2, cmpBytes k (maxVersionKey i beg) = .gt)
    (hin : ∀ g ∈ ins, ∀ k ∈ g.2, cmpBytes k (maxVersionKey i fin) ≠ .gt)
    (hout : ∀ g ∈ outs, ∀ k ∈ g.2, cmpBytes k (maxVersionKey i fin) = .gt) :
    versionedRange d i v beg fin raw = ins.flatMap (fun g => sendKV d v g.2) :=
  versionedRange_eq_groups_from_beg d i v beg fin raw [] ins outs hstart (fun _ h => nomatch h) hc hnew hin hout

instance (i : Nat) (g : Bytes × List Bytes) : Decidable (GroupOK i g) := by
  unfold GroupOK
  infer_instance
instance chainDec (i : Nat) : (gs : List (Bytes × List Bytes)) → Decidable (Chain i gs)
  | [] => isTrue trivial
  | g :: rest => by
    unfold Chain
    have := chainDec i rest
    infer_instance

/- Non-vacuity: the hypotheses of `versionedRange_eq_groups` hold for the real key encodings of two key-value datums
   of instance 1, "a" (versions 1 and 2) and "b" (a tombstone at version 2), the range being all key-value keys. -/
example :
    let ka := kvTKey [97]
    let kb := kvTKey [98]
    let a1 := constructDataKey 1 1 0 ka
    let a2 := constructDataKey 1 2 0 ka
    let b2 := tombstoneKey 1 2 0 kb
    let ins : List (Bytes × List Bytes) := [(ka, [a1, a2]), (kb, [b2])]
    Chain 1 (ins ++ []) ∧
    (∀ g ∈ ins ++ [], ∀ k ∈ g.2, cmpBytes k (maxVersionKey 1 (minTKey 177)) = .gt) ∧
    (∀ g ∈ ins, ∀ k ∈ g.2, cmpBytes k (maxVersionKey 1 (maxTKey 177)) ≠ .gt) ∧
    [a1, a2, b2].dropWhile (fun k => cmpBytes k (minVersionKey 1 (minTKey 177)) == .lt) = (ins ++ []).flatMap (fun (g : Bytes × List Bytes) => g.2) := by
  decide

end Dvid.Props.C05
