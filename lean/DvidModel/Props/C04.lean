import DvidModel.Model.FileLog
import DvidModel.Model.Ids
import DvidModel.Gen.Fixes
import DvidModel.Lemmas.Bytes
/-
  C04 — A crash at any write point is recoverable and loses no acknowledged work.
  Proved here: the append-only log part (`filelog_prefix`: every list of records the format can hold, `Rec.WF`, the
  tail record torn at any strict prefix of its encoding — partial header, header only, partial payload); and, over shapes
  regenerated from the source, that the loader's repair leaves the version-id counter above every stored id
  (`reload_counter_fresh`) and that a single-key put or delete is all or nothing (`single_key_write_atomic`).
  The key-value and repo-metadata parts are enumerated by the harness on real server processes (crash before and
  after every store write of a workload, second crash during recovery), see DESIGN.md §4 C04.
-/
namespace Dvid.Props.C04
open Dvid Dvid.FileLog

/-- a record the format can hold: 16-bit entry type, payload shorter than 4 GiB -/
def Rec.WF (r : Rec) : Prop := r.typ < 65536 ∧ r.data.length < 4294967296

theorem fromLe16_le16 (n : Nat) (h : n < 65536) (rest : Bytes) : fromLe16 (le16 n ++ rest) = n := le16_digits h

theorem fromLe32_le32 (n : Nat) (h : n < 4294967296) (rest : Bytes) : fromLe32 (le32 n ++ rest) = n := le32_digits h

theorem encode_length (r : Rec) : (encode r).length = 6 + r.data.length := by
  simp only [encode, List.length_append]
  rfl

theorem decode_short (fuel : Nat) (data : Bytes) (h : data.length < 6) : decode fuel data = [] := by
  cases fuel with
  | zero => rfl
  | succ fuel =>
    by_cases he : data.isEmpty = true
    · rw [decode, if_pos he]
    · rw [decode, if_neg he]
      exact if_pos h

/-- holds only with the reader's bounds check (`Gen.filelogBoundsChecked`, regenerated): without it the reader slices
    past the end of the data and returns the torn record padded from the slice's capacity, or panics -/
theorem decode_header (fuel typ size : Nat) (ht : typ < 65536) (hs : size < 4294967296) (body : Bytes) :
    decode (fuel + 1) (le16 typ ++ le32 size ++ body) =
      if body.length < size then [] else .msg ⟨typ, body.take size⟩ :: decode fuel (body.drop size) := by
  have h16 : fromLe16 (le16 typ ++ le32 size ++ body) = typ := fromLe16_le16 typ ht _
  have h32 : fromLe32 ((le16 typ ++ le32 size ++ body).drop 2) = size := fromLe32_le32 size hs body
  have h6 : (le16 typ ++ le32 size ++ body).drop Gen.filelogHeaderSize = body := rfl
  have hl : ¬ (le16 typ ++ le32 size ++ body).length < Gen.filelogHeaderSize := by
    rw [List.length_append]
    exact Nat.not_lt.mpr (Nat.le_add_right 6 _)
  rw [decode, if_neg nofun, if_neg hl]
  simp only [h16, h32, h6, Gen.filelogBoundsChecked, ↓reduceIte]

theorem decode_cons (fuel : Nat) (r : Rec) (h : Rec.WF r) (rest : Bytes) :
    decode (fuel + 1) (encode r ++ rest) = .msg r :: decode fuel rest := by
  rw [encode, List.append_assoc, decode_header fuel r.typ r.data.length h.1 h.2, if_neg, List.take_left, List.drop_left]
  -- the condition left open by `if_neg`: the payload is all there
  rw [List.length_append]
  omega

theorem decode_torn (fuel : Nat) (r : Rec) (h : Rec.WF r) (k : Nat) (hk : k < (encode r).length) :
    decode fuel ((encode r).take k) = [] := by
  rw [encode_length] at hk
  by_cases h6 : k < 6
  · exact decode_short fuel _ (by rw [List.length_take]; omega)
  · -- the whole header is there: the size field is the real one, the payload is incomplete
    have htake : (encode r).take k = le16 r.typ ++ le32 r.data.length ++ r.data.take (k - 6) := by
      rw [encode, List.take_append, List.take_of_length_le (Nat.not_lt.mp h6)]
      rfl
    cases fuel with
    | zero => rfl
    | succ fuel =>
      rw [htake, decode_header fuel r.typ r.data.length h.1 h.2, if_pos]
      rw [List.length_take]
      omega

theorem length_le_encodeAll (rs : List Rec) : rs.length ≤ (encodeAll rs).length := by
  induction rs with
  | nil => exact Nat.le_refl 0
  | cons r rs ih =>
    rw [encodeAll] at ih
    rw [encodeAll, List.flatMap_cons, List.length_append, encode_length, List.length_cons]
    omega

theorem decode_encodeAll (rs : List Rec) (hrs : ∀ r ∈ rs, Rec.WF r) (tail : Bytes) (htail : ∀ fuel, decode fuel tail = []) :
    ∀ fuel, rs.length ≤ fuel → decode fuel (encodeAll rs ++ tail) = rs.map Item.msg := by
  induction rs with
  | nil => exact fun fuel _ => htail fuel
  | cons r rs ih =>
    intro fuel hf
    obtain ⟨fuel, rfl⟩ : ∃ m, fuel = m + 1 := ⟨fuel - 1, by rw [List.length_cons] at hf; omega⟩
    rw [encodeAll, List.flatMap_cons, List.append_assoc, decode_cons fuel r (hrs r List.mem_cons_self), List.map_cons]
    exact congrArg _ (ih (fun r' h' => hrs r' (List.mem_cons_of_mem r h')) fuel (Nat.le_of_succ_le_succ hf))

/-- **Append-only logs yield exactly the records that were completely written** — never a truncated,
    padded or invented record.  `k = 0` is the intact file. -/
theorem filelog_prefix (rs : List Rec) (hrs : ∀ r ∈ rs, Rec.WF r) (t : Rec) (ht : Rec.WF t) (k : Nat)
    (hk : k < (encode t).length) : readAll (encodeAll rs ++ (encode t).take k) = rs.map Item.msg := by
  refine decode_encodeAll rs hrs _ (fun fuel => decode_torn fuel t ht k hk) _ ?_
  rw [List.length_append]
  exact Nat.le_trans (length_le_encodeAll rs) (by omega)

theorem filelog_roundtrip (rs : List Rec) (hrs : ∀ r ∈ rs, Rec.WF r) : readAll (encodeAll rs) = rs.map Item.msg := by
  have := filelog_prefix rs hrs ⟨0, []⟩ ⟨by decide, by decide⟩ 0 (by decide)
  rwa [List.take_zero, List.append_nil] at this

/- Non-vacuity: a record with a payload, torn after its header -/
example : Rec.WF ⟨7, [1, 2, 3]⟩ ∧ (6 : Nat) < (encode ⟨7, [1, 2, 3]⟩).length :=
  ⟨⟨by decide, by decide⟩, by decide⟩

/-- **Version ids survive a crash between the two writes of an allocation**: whatever the store holds (in particular
    a map that already contains the id the stored counter still points at), the loader's counter ends above every
    stored version id, so none is issued again.  Depends on the regenerated fact that the loader's repair fires for
    `v >= counter`. -/
theorem reload_counter_fresh (p : Ids.VerP) : p.mapMax < p.reload := by
  unfold Ids.VerP.reload
  simp only [Gen.loaderRepairsEqualVersion, if_true]
  split <;> omega

/-- the crash point in question is reachable: after the first write of `newUUID` the stored map holds the
    id the stored counter points at -/
example : (Ids.VerP.afterMapWrite ⟨5, 4⟩).mapMax = (Ids.VerP.afterMapWrite ⟨5, 4⟩).counter := by decide

/-- the extractor still finds the repaired shape of the store opening (files left empty by a kill during their
    creation are removed); the opening itself is not modelled -/
theorem repaired_shape_present : Gen.badgerRemovesEmptyLogFiles = true := by decide

/-! ### Single-key writes of a version are one store transaction

Per version a versioned key has a value entry and a deletion marker; a read takes the value if there is one, nothing
if there is only the marker, otherwise what the ancestors give.  `BadgerDB.Put` writes the value and clears the
marker, `BadgerDB.Delete` removes the value and sets the marker.  Whether each pair is one transaction is regenerated
from storage/badger/badger.go.

With both present `Slot.read` lets the value win; `Store.entryAt`, like Go (the last key of a version wins, and the
marker byte 0x4F sorts after 0x03), the marker.  Nothing here depends on which: inside one transaction the state
between the two steps is invisible, a completed put or delete leaves only one of the two, and the two-transaction
example at the end deletes a plain value, which passes through no such state. -/

structure Slot where
  val  : Option Nat
  tomb : Bool
deriving DecidableEq, Repr

def Slot.read (anc : Option Nat) (s : Slot) : Option Nat :=
  match s.val with
  | some v => some v
  | none => if s.tomb then none else anc

inductive Step | setVal (v : Nat) | clearVal | setTomb | clearTomb

def Step.apply : Step → Slot → Slot
  | .setVal v, s => { s with val := some v }
  | .clearVal, s => { s with val := none }
  | .setTomb, s => { s with tomb := true }
  | .clearTomb, s => { s with tomb := false }

def putSteps (v : Nat) : List Step := [.setVal v, .clearTomb]
def delSteps : List Step := [.clearVal, .setTomb]

/-- the store after a crash (or as seen by another request) once `k` of the steps are done: with one transaction
    nothing is visible before all of them are -/
def partialRun (singleTxn : Bool) (steps : List Step) (k : Nat) (s : Slot) : Slot :=
  if singleTxn then (if steps.length ≤ k then steps.foldl (fun s st => st.apply s) s else s)
  else (steps.take k).foldl (fun s st => st.apply s) s

theorem partialRun_txn (steps : List Step) (k : Nat) (s : Slot) :
    partialRun true steps k s = s ∨ partialRun true steps k s = steps.foldl (fun s st => st.apply s) s := by
  rw [partialRun, if_pos rfl]
  split
  · exact Or.inr rfl
  · exact Or.inl rfl

/-- on the `Slot` machine above (not `Store.putV`/`delV`): at every crash point inside a single-key delete or put of a
    version, a read at that version gives what it gave before the request or what it gives after it.  `partialRun true`
    is all or nothing by definition: what is checked is that the regenerated flag is `true`. -/
theorem single_key_write_atomic (anc : Option Nat) (s : Slot) (k v : Nat) :
    ((partialRun Gen.badgerPutDeleteSingleTxn delSteps k s).read anc = s.read anc ∨
      (partialRun Gen.badgerPutDeleteSingleTxn delSteps k s).read anc = none) ∧
    ((partialRun Gen.badgerPutDeleteSingleTxn (putSteps v) k s).read anc = s.read anc ∨
      (partialRun Gen.badgerPutDeleteSingleTxn (putSteps v) k s).read anc = some v) :=
  -- typechecks by unfolding: the regenerated flag to `true`, the read after all steps of a delete to `none`, of a put
  -- to `some v`
  ⟨(partialRun_txn delSteps k s).imp (congrArg (Slot.read anc)) (congrArg (Slot.read anc)),
    (partialRun_txn (putSteps v) k s).imp (congrArg (Slot.read anc)) (congrArg (Slot.read anc))⟩

/-- with two transactions a crash (or another request) between them shows the ancestor's value: neither the value
    before the delete nor "deleted" (seeded changes C04-6, C11-5) -/
example : (partialRun false delSteps 1 ⟨some 1, false⟩).read (some 9) = some 9 ∧
    (⟨some 1, false⟩ : Slot).read (some 9) = some 1 := by decide

end Dvid.Props.C04
