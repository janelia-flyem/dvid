import DvidModel.Lemmas.NJ
/-
  C16 — Neuron annotations: in-memory head equals the store; updates merge fields.
  Proved over a mirror of `updateJSON` (field names read as the Go code reads them: one `_user`/`_time` suffix
  level), for a plain field (not a stamp): `null_removes`; for a partial update (not replace) of a stored annotation
  without duplicate keys, `keeps_unmentioned`, `conditional_keeps_stored` and `stamps_unchanged` (the request too
  without duplicate keys, naming neither stamp).
  For the head's sorted id list: `search_spec` (Go's `sort.Search`) and `deleteBodyID_spec`; the predicate of
  `deleteBodyID` is regenerated from the source, and `equality_predicate_misses` shows why it matters.
  Left to the harness, on generated histories (DESIGN.md §4 C16): that every read endpoint answers identically
  through the in-memory head and through the store.
-/
namespace Dvid.Props.C16
open Dvid Dvid.NJ

theorem mem_keys_of_get (o : Obj) (k : Key) (v : Val) (h : get o k = some v) : k ∈ keys o :=
  Decidable.of_not_not fun hn => nomatch (get_eq_none_iff.2 hn).symm.trans h

/-- a null in the request removes a plain field's value, in every mode and whatever else the request holds -/
theorem null_removes (orig : Option Obj) (new : Obj) (user time : String) (cond : List Key) (replace : Bool)
    (f : Key) (hf : f.kind = .plain) (hnull : (f, Val.null) ∈ new) :
    get (updateJSON orig new user time cond replace) f = none := by
  have hdel : f ∈ nulls new := mem_nulls.2 hnull
  have hstamp : ∀ ns l nw, get (List.foldl (stamp user time (nulls new) ns) nw l) f = get nw f := fun _ _ _ =>
    fold_stamp_get fun g _ _ => plain_ne_stamps hf g
  have hnw := fold_dropNull_get (explicitStamps new .user) (explicitStamps new .time) user time
    (nulls new) (new, orig) f fun d _ => plain_ne_stamps hf d
  rw [if_pos hdel] at hnw
  unfold updateJSON
  simp only [fold_dropNull_orig]  -- the `match` is now on `orig.map …`: `cases orig` decides it
  -- the result is the dropNull result (`hnw`: no `f`) sent through the stamp loop, after the carry loop (partial) or
  -- before the keepStamps loop (replace) if something is stored; stamps are not plain keys, carry writes only stored
  -- keys (`hog`)
  cases orig with
  | none => exact (hstamp _ _ _).trans hnw
  | some og =>
    have hog : get ((nulls new).foldl erase og) f = none := by rw [fold_erase_get, if_pos hdel]
    cases replace with
    | true =>
      exact (foldl_fixed (fun nw => get nw f) (fun _ g _ => keepStamps_get (plain_ne_stamps hf g)) _).trans
        ((hstamp _ _ _).trans hnw)
    | false => exact (hstamp _ _ _).trans ((fold_carry_get_absent hog).trans hnw)

/-- a partial update keeps the stored plain fields it does not mention (a stamp it does not mention can change;
    for a field not stored either, `updateJSON_partial_get_plain` gives `none`) -/
theorem keeps_unmentioned (og new : Obj) (user time : String) (cond : List Key) (f : Key) (v : Val)
    (hf : f.kind = .plain) (hnd : (keys og).Nodup) (hog : get og f = some v) (hnm : f ∉ keys new) :
    get (updateJSON (some og) new user time cond false) f = some v := by
  have hnew : get new f = none := get_eq_none_iff.2 hnm
  have hdel : f ∉ nulls new := fun h => hnm (List.mem_map_of_mem (mem_nulls.1 h))
  rw [updateJSON_partial_get_plain hf hnd, if_neg hdel, has_eq_get, hnew, hog]
  rfl

/-- **a conditional field keeps its stored value** in a partial update (not replace), whatever value the request
    carries for it (unless the request deletes it with a null) -/
theorem conditional_keeps_stored (og new : Obj) (user time : String) (cond : List Key) (f : Key) (v : Val)
    (hf : f.kind = .plain) (hnd : (keys og).Nodup) (hog : get og f = some v) (hc : cond.contains f = true)
    (hnn : ∀ p ∈ new, p.1 = f → p.2 ≠ .null) :
    get (updateJSON (some og) new user time cond false) f = some v := by
  have hdel : f ∉ nulls new := fun h => hnn (f, .null) (mem_nulls.1 h) rfl rfl
  rw [updateJSON_partial_get_plain hf hnd, if_neg hdel, hc, Bool.not_true, Bool.and_false, hog]
  rfl

/-- in a partial update a field's stamps do not change when the request repeats its stored, non-null value (and
    gives no explicit stamps) -/
theorem stamps_unchanged (og new : Obj) (user time : String) (cond : List Key) (f k : Key) (v : Val)
    (hf : f.kind = .plain) (hk : k = userOf f ∨ k = timeOf f)
    (hndo : (keys og).Nodup) (hndn : (keys new).Nodup)
    (hv : v ≠ .null) (hog : get og f = some v) (hnew : get new f = some v)
    (hnu : userOf f ∉ keys new) (hnt : timeOf f ∉ keys new) :
    get (updateJSON (some og) new user time cond false) k = get og k := by
  have hkroot : k.root = f.root := by rcases hk with h | h <;> rw [h] <;> rfl
  have hknew : k ∉ keys new := by rcases hk with h | h <;> rw [h] <;> assumption
  -- no deleted key has f's root: f is repeated with a value, its stamps are not mentioned
  have hroot : ∀ d ∈ nulls new, d.root ≠ k.root := by
    intro d hd hr
    have hdn := mem_nulls.1 hd
    have hdk : d ∈ keys new := List.mem_map_of_mem hdn
    cases hdkind : d.kind with
    | plain =>
      have hget := get_of_mem_nodup hdn hndn
      rw [key_ext (hr.trans hkroot) (hdkind.trans hf.symm), hnew] at hget
      exact hv (Option.some.inj hget)
    | user => exact hnu (key_ext (b := userOf f) (hr.trans hkroot) hdkind ▸ hdk)
    | time => exact hnt (key_ext (b := timeOf f) (hr.trans hkroot) hdkind ▸ hdk)
  have hfdel : f ∉ nulls new := fun h => hroot f h hkroot.symm
  have hkdel : k ∉ nulls new := fun h => hroot k h rfl
  -- `k` read through the three loops: the request side has none after dropNull (`hnwk`), carry brings the stored
  -- value (`hogk`), and the stamp loop passes `k` by because `f`, repeated with its stored value, is not newly set
  rw [updateJSON_partial]
  dsimp only
  have hnwk := fold_dropNull_get (explicitStamps new .user) (explicitStamps new .time) user time
    (nulls new) (new, some og) k fun d hd => (ne_of_root_ne (hroot d hd)).2
  rw [if_neg hkdel, get_eq_none_iff.2 hknew] at hnwk
  have hnwf := fold_dropNull_get (explicitStamps new .user) (explicitStamps new .time) user time
    (nulls new) (new, some og) f fun d _ => plain_ne_stamps hf d
  rw [if_neg hfdel, hnew] at hnwf
  have hogf : get ((nulls new).foldl erase og) f = some v := by rw [fold_erase_get, if_neg hfdel, hog]
  have hogk : get ((nulls new).foldl erase og) k = get og k := by rw [fold_erase_get, if_neg hkdel]
  rw [fold_stamp_get fun g hg hgp => ?_, fold_carry_get (fold_erase_keys_nodup _ hndo)]
  · dsimp only
    rw [has_eq_get, hnwk, hogk]
    exact Option.or_none  -- `none.isSome && _` computes to `false`: the `if` is its else branch
  · -- a plain field that the stamping loop visits is newly set; f is not, so it has another root than k
    refine (ne_of_root_ne fun hr => ?_).2
    have hgn := (List.mem_filter.1 (fold_carry_newly_subset hg)).2
    rw [key_ext (hr.trans hkroot) (hgp.trans hf.symm), has_eq_get, hogf, hnwf] at hgn
    simp [isMeta, hf] at hgn

/-- premises satisfiable: a stored annotation, a request repeating `status` and deleting `group` -/
def ogDemo : Obj := [(⟨"bodyid", .plain⟩, .other "5"), (⟨"status", .plain⟩, .str "\"Traced\""), (⟨"status", .time⟩, .str "\"t0\""),
  (⟨"status", .user⟩, .str "\"alice\""), (⟨"group", .plain⟩, .other "1"), (⟨"name", .plain⟩, .str "\"n\"")]
def newDemo : Obj := [(⟨"bodyid", .plain⟩, .other "5"), (⟨"status", .plain⟩, .str "\"Traced\""), (⟨"group", .plain⟩, .null)]
example : (keys ogDemo).Nodup ∧ (keys newDemo).Nodup := by decide
example : get (updateJSON (some ogDemo) newDemo "\"bob\"" "\"t1\"" [] false) ⟨"status", .time⟩ = some (.str "\"t0\"") ∧
    get (updateJSON (some ogDemo) newDemo "\"bob\"" "\"t1\"" [] false) ⟨"group", .plain⟩ = none ∧
    get (updateJSON (some ogDemo) newDemo "\"bob\"" "\"t1\"" [] false) ⟨"group", .user⟩ = some (.str "\"bob\"") ∧
    get (updateJSON (some ogDemo) newDemo "\"bob\"" "\"t1\"" [] false) ⟨"name", .plain⟩ = some (.str "\"n\"") := by decide +kernel

/-- a conditional field that is already stored keeps its value and both stamps; one that is not stored yet is set
    with the caller's stamps (a decided instance: `conditional_keeps_stored` proves the value part for every
    request; the stamps and the field not yet stored are exercised against the server by the harness on every POST
    with conditionals) -/
def condDemo : Obj := [(⟨"bodyid", .plain⟩, .other "5"), (⟨"status", .plain⟩, .str "\"Other\""), (⟨"newf", .plain⟩, .str "\"n1\"")]
example :
    let r := updateJSON (some ogDemo) condDemo "\"bob\"" "\"t1\"" [⟨"status", .plain⟩, ⟨"newf", .plain⟩] false
    get r ⟨"status", .plain⟩ = some (.str "\"Traced\"") ∧ get r ⟨"status", .user⟩ = some (.str "\"alice\"") ∧
    get r ⟨"status", .time⟩ = some (.str "\"t0\"") ∧ get r ⟨"newf", .plain⟩ = some (.str "\"n1\"") ∧
    get r ⟨"newf", .user⟩ = some (.str "\"bob\"") := by decide +kernel

/-- the premises of `conditional_keeps_stored` are met: "status" is conditional, stored "Traced", requested "Other" -/
example : get (updateJSON (some ogDemo) condDemo "\"bob\"" "\"t1\"" [⟨"status", .plain⟩] false) ⟨"status", .plain⟩
    = some (.str "\"Traced\"") :=
  conditional_keeps_stored ogDemo condDemo _ _ _ _ _ rfl (by decide) (by decide) (by decide) (by decide)

/-! ### the head's sorted id list -/

/-- the loop invariant of `sort.Search`: `f` is false below `lo` and true from `hi` on; the interval shrinks with the
    fuel -/
theorem searchLoop_spec (f : Nat → Bool) (n : Nat) (hmono : ∀ i j, i ≤ j → j < n → f i = true → f j = true)
    (fuel lo hi : Nat) (hlh : lo ≤ hi) (hhn : hi ≤ n) (hfuel : hi - lo < fuel)
    (hlo : ∀ j, j < lo → f j = false) (hhi : ∀ j, hi ≤ j → j < n → f j = true) :
    let r := searchLoop f fuel lo hi
    r ≤ n ∧ (∀ j, j < r → f j = false) ∧ (∀ j, r ≤ j → j < n → f j = true) := by
  induction fuel generalizing lo hi with
  | zero => omega
  | succ fuel ih =>
    unfold searchLoop
    by_cases hlt : lo < hi
    · simp only [hlt, ↓reduceIte]
      have hm : lo ≤ (lo + hi) / 2 ∧ (lo + hi) / 2 < hi := by omega
      generalize (lo + hi) / 2 = m at hm ⊢
      cases hfm : f m with
      | false =>
        simp only [Bool.not_false, ↓reduceIte]
        apply ih (m + 1) hi (by omega) hhn (by omega)
        · exact fun j hj => Bool.eq_false_iff.2 fun hfj => Bool.false_ne_true (hfm ▸ hmono j m (by omega) (by omega) hfj)
        · exact hhi
      | true =>
        simp only [Bool.not_true, Bool.false_eq_true, ↓reduceIte]
        exact ih lo m hm.1 (by omega) (by omega) hlo fun j hj hjn => hmono m j hj hjn hfm
    · simp only [hlt, ↓reduceIte]
      obtain rfl : lo = hi := by omega
      exact ⟨hhn, hlo, hhi⟩

/-- `sort.Search` on a monotone predicate returns the least index where it holds (or n) -/
theorem search_spec (f : Nat → Bool) (n : Nat) (hmono : ∀ i j, i ≤ j → j < n → f i = true → f j = true) :
    search n f ≤ n ∧ (∀ j, j < search n f → f j = false) ∧ (∀ j, search n f ≤ j → j < n → f j = true) :=
  searchLoop_spec f n hmono (n + 1) 0 n (Nat.zero_le n) (Nat.le_refl n) (Nat.lt_succ_self n)
    (fun _ hj => nomatch hj) (fun _ hj hjn => absurd hjn (Nat.not_lt.2 hj))

abbrev Sorted (l : List Nat) : Prop := l.Pairwise (· < ·)

theorem Sorted.nodup {l : List Nat} (hs : Sorted l) : l.Nodup := hs.imp Nat.ne_of_lt

theorem sorted_getD_le {l : List Nat} (hs : Sorted l) {i j : Nat} (hij : i ≤ j) (hj : j < l.length) :
    l.getD i 0 ≤ l.getD j 0 := by
  rcases Nat.lt_or_eq_of_le hij with h | rfl
  · have hlt := List.pairwise_iff_getElem.1 hs i j (Nat.lt_trans h hj) hj h
    rw [List.getElem_eq_getD 0, List.getElem_eq_getD 0] at hlt
    exact Nat.le_of_lt hlt
  · exact Nat.le_refl _

/-- the search lands on the id if it is there at all -/
theorem deleteBodyID_eq_erase (ids : List Nat) (b : Nat) (hs : Sorted ids) : deleteBodyID ids b = ids.erase b := by
  unfold deleteBodyID
  simp only [Gen.njDeleteSearchMonotone, ↓reduceIte]
  obtain ⟨hle, hlo, hhi⟩ := search_spec (fun i => decide (ids.getD i 0 ≥ b)) ids.length fun _ _ hij hj h =>
    decide_eq_true (Nat.le_trans (of_decide_eq_true h) (sorted_getD_le hs hij hj))
  generalize search ids.length (fun i => decide (ids.getD i 0 ≥ b)) = i at *
  simp only [decide_eq_false_iff_not, decide_eq_true_eq] at hlo hhi
  by_cases hc : i = ids.length ∨ ids.getD i 0 ≠ b
  · rw [if_pos (by simpa using hc)]
    refine (List.erase_of_not_mem fun hm => ?_).symm
    obtain ⟨j, hj, hjb⟩ := List.getElem_of_mem hm
    rw [List.getElem_eq_getD 0] at hjb
    -- `b` sits at some `j`, not left of `i` where all is smaller: the entry at `i` lies between `b` and `b`
    have hij : i ≤ j := Nat.le_of_not_lt fun hji => hlo j hji (Nat.le_of_eq hjb.symm)
    have h1 := hhi i (Nat.le_refl i) (by omega)
    have h2 := sorted_getD_le hs hij hj
    omega
  · have hi : i < ids.length := by omega
    have hib : ids[i] = b := by
      rw [List.getElem_eq_getD 0]
      omega
    rw [if_neg (by simpa using hc)]
    exact (List.erase_eq_eraseIdx_of_idxOf (hib ▸ List.Nodup.idxOf_getElem (Sorted.nodup hs) i hi)).symm

/-- removing an id from the sorted id list removes exactly that id and keeps the list sorted -/
theorem deleteBodyID_spec (ids : List Nat) (b : Nat) (hs : Sorted ids) :
    Sorted (deleteBodyID ids b) ∧ ∀ x, x ∈ deleteBodyID ids b ↔ (x ∈ ids ∧ x ≠ b) := by
  rw [deleteBodyID_eq_erase ids b hs]
  exact ⟨hs.sublist List.erase_sublist, fun x => (List.Nodup.mem_erase_iff (Sorted.nodup hs)).trans and_comm⟩

/-- why the predicate matters: with `ids[i] == bodyid` the search for 1 in [1,2,3] probes 2 first, moves right and
    reports "not found" (the defect fixed in /repo, KNOWN_FINDINGS.txt) -/
theorem equality_predicate_misses : search 3 (fun i => [1, 2, 3].getD i 0 == 1) = 3 := by decide

end Dvid.Props.C16
