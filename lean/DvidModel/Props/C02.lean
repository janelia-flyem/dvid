import DvidModel.Gen.Gate
import DvidModel.Props.C01
import DvidModel.Props.C07
import DvidModel.Gen.Fixes
/-
  C02 — Committed versions are immutable.
  (a) The request gate: the guards of server/web.go are regenerated as boolean expressions (Gen.Gate) and
      interpreted; the theorems quantify over every handler environment and every method string.
  (b) Read stability: `locked_read_stable`, by C01's locality, where every parent is committed (`ParentsLocked`; how
      far the manager establishes that: `manager_parents_locked`).
  No theorem links (a) and (b): that writes reach uncommitted versions only is what (a) is read as saying, and it
  fails in full-write mode or with the admin token, where the gate lets writes to committed versions through.
-/
namespace Dvid.Props.C02
open Dvid Dvid.Resolve Dvid.Store Dvid.Key

/-- `IsMutationRequest` of a data type: the default (method ∈ {post, put, delete} after lower-casing) unless
    the type overrides that (endpoint, method) pair -/
def isMutation (typ endpoint method : String) : Bool :=
  (method == "post" || method == "put" || method == "delete") && !(Gen.readOnlyOverrides.contains (typ, endpoint, method))

/-- the reviewed list of read-only POST endpoints; a new override breaks this theorem and sends the check
    looking for a request that writes on a committed node -/
theorem readOnlyOverrides_reviewed :
    Gen.readOnlyOverrides = [("neuronjson", "query", "post"), ("roi", "ptquery", "post")] ∧
    Gen.defaultMutationIsPostPutDelete = true := by decide

/-- The regenerated guards are the conditions of instanceSelector, nodeSelector and repoRawSelector / repoSelector of
    server/web.go over the handler's variables. -/
theorem instanceGuard_eval (env : GateEnv) :
    Gen.instanceGuard.eval env = (!env.adminPriv && !env.fullwrite && env.locked && env.isMutation) := by
  simp only [Gen.instanceGuard, BExp.eval, GateEnv.atom]

theorem nodeGuard_eval (env : GateEnv) :
    Gen.nodeGuard.eval env = (!env.adminPriv && !env.fullwrite && env.locked && !env.branchRequest &&
      !(env.method == "get") && !(env.method == "head")) := by
  simp only [Gen.nodeGuard, BExp.eval, GateEnv.atom]

theorem repoRawReadonlyGuard_eval (env : GateEnv) :
    Gen.repoRawReadonlyGuard.eval env =
      (!env.adminPriv && env.readonly && !(env.method == "get") && !(env.method == "head")) := by
  simp only [Gen.repoRawReadonlyGuard, BExp.eval, GateEnv.atom]

theorem repoReadonlyGuard_eq : Gen.repoReadonlyGuard = Gen.repoRawReadonlyGuard := rfl

/-- **Data requests.**  On a committed version, for every data type, every endpoint keyword (any string) and the
    lower-cased methods post/put/delete, the reviewed read-only POSTs excepted, the gate refuses a request classified by
    `isMutation`, unless in full-write mode or with the admin token.  Second conjunct: the regenerated flag that the
    gate sits before the type's handler. -/
theorem gate_denies_mutation (typ endpoint method : String) (env : GateEnv)
    (hm : method = "post" ∨ method = "put" ∨ method = "delete")
    (hnot : (typ, endpoint, method) ∉ Gen.readOnlyOverrides)
    (hl : env.locked = true) (ha : env.adminPriv = false) (hf : env.fullwrite = false)
    (hmut : env.isMutation = isMutation typ endpoint method) :
    Gen.instanceGuard.eval env = true ∧ Gen.gateBeforeHandler = true := by
  have hc : Gen.readOnlyOverrides.contains (typ, endpoint, method) = false := by
    simpa using hnot
  have hmt : isMutation typ endpoint method = true := by
    unfold isMutation
    rw [hc]
    rcases hm with h | h | h <;> simp [h]
  rw [instanceGuard_eval, hl, ha, hf, hmut, hmt]
  exact ⟨rfl, rfl⟩

/- Non-vacuity: a PATCH-like method is not classified as a mutation by the gate (measured by the harness) -/
example : isMutation "keyvalue" "key" "post" = true ∧ isMutation "roi" "ptquery" "post" = false ∧
    isMutation "keyvalue" "key" "patch" = false := by decide

/-- the only ways a mutating data request passes on a committed version: full-write mode or the admin token -/
theorem instance_gate_exceptions (env : GateEnv) (hl : env.locked = true) (hmut : env.isMutation = true)
    (hpass : Gen.instanceGuard.eval env = false) : env.fullwrite = true ∨ env.adminPriv = true := by
  rw [instanceGuard_eval, hl, hmut] at hpass
  revert hpass
  cases env.fullwrite <;> cases env.adminPriv <;> decide

/-- **Node-level requests.**  On a committed version, without admin token or full-write mode, every request whose
    method is not get/head — note, log, commit, … — is refused unless `branchRequest` is set (the handler does, for
    the child-creating actions of `branch_actions`; that link is not modelled) -/
theorem node_gate (env : GateEnv) (hl : env.locked = true) (ha : env.adminPriv = false) (hf : env.fullwrite = false)
    (hb : env.branchRequest = false) (hm : env.method ≠ "get" ∧ env.method ≠ "head") :
    Gen.nodeGuard.eval env = true := by
  rw [nodeGuard_eval, hl, ha, hf, hb, beq_false_of_ne hm.1, beq_false_of_ne hm.2]
  rfl

theorem node_gate_allows_children (env : GateEnv) (hb : env.branchRequest = true) : Gen.nodeGuard.eval env = false := by
  rw [nodeGuard_eval, hb, Bool.not_true, Bool.and_false, Bool.false_and, Bool.false_and]

theorem branch_actions : Gen.branchActions = ["branch", "newversion", "tag"] ∧ Gen.commitRefusesLocked = true := by decide

/-- **Read-only mode**: unless the caller holds the admin token, every method other than get/head is refused on the
    repo and node route families -/
theorem readonly_gate (env : GateEnv) (hr : env.readonly = true) (ha : env.adminPriv = false)
    (hm : env.method ≠ "get" ∧ env.method ≠ "head") :
    Gen.repoRawReadonlyGuard.eval env = true ∧ Gen.repoReadonlyGuard.eval env = true := by
  rw [repoReadonlyGuard_eq, repoRawReadonlyGuard_eval, hr, ha, beq_false_of_ne hm.1, beq_false_of_ne hm.2]
  exact ⟨rfl, rfl⟩

/-! ### (b) read stability -/

/-- `locked`: any assignment of commit flags to version ids -/
def ParentsLocked (d : Dag) (locked : Nat → Bool) : Prop := ∀ v p, p ∈ d.parents v → locked p = true

theorem ancestors_locked {d : Dag} {locked : Nat → Bool} (hp : ParentsLocked d locked) {v a : Nat}
    (hv : locked v = true) (h : Anc d v a) : locked a = true := by
  induction h with
  | refl => exact hv
  | step hpar _ ih => exact ih (hp _ _ hpar)

/-- **A committed version reads back the same after a write elsewhere**: one Put or Delete of a datum at an
    uncommitted version `w` leaves the read of that datum at every committed `v` as it was: every ancestor of a
    committed version is committed, so is not `w`.  Other data and other instances: `C01.getV_write_other`.
    "Ever after" is this step repeated, which is not stated. -/
theorem locked_read_stable (d : Dag) (locked : Nat → Bool) (hp : ParentsLocked d locked) (s : KV)
    (i v w : Nat) (tk val : Bytes) (hi : U32 i) (hw : U32 w) (hbound : ∀ a, Anc d v a → U32 a)
    (hv : locked v = true) (hwu : locked w = false) :
    getV d (putV s i w tk val) i tk v = getV d s i tk v ∧ getV d (delV s i w tk) i tk v = getV d s i tk v := by
  have hnot : ¬ Anc d v w := fun h => Bool.false_ne_true (hwu.symm.trans (ancestors_locked hp hv h))
  exact ⟨C01.getV_write_other d s _ i i v w tk tk hi hi hw hbound (putV_other s i w tk val) (fun h => hnot h.2.2),
         C01.getV_write_other d s _ i i v w tk tk hi hi hw hbound (delV_other s i w tk) (fun h => hnot h.2.2)⟩

theorem other_instance_irrelevant (d : Dag) (s : KV) (i i' v w : Nat) (tk tk' val : Bytes)
    (hi : U32 i) (hi' : U32 i') (hw : U32 w) (hbound : ∀ a, Anc d v a → U32 a) (hne : i' ≠ i) :
    getV d (putV s i w tk val) i' tk' v = getV d s i' tk' v :=
  C01.getV_write_other d s _ i i' v w tk tk' hi hi' hw hbound (putV_other s i w tk val) (fun h => hne h.1)

/-- C07's invariant, of every reachable manager state.  Read through version ids (`d.parents v` = parent list of the
    node with id `v`, `locked v` = its commit flag) this is `ParentsLocked` of `locked_read_stable`; the reading is
    informal: no definition builds a `Resolve.Dag` or a `locked` from a `Manager.State`. -/
theorem manager_parents_locked (rs : List Manager.Req) :
    ∀ n ∈ (rs.foldl (fun s r => (Manager.step s r).1) Manager.init).nodes, ∀ p ∈ n.parents,
      ∃ m ∈ (rs.foldl (fun s r => (Manager.step s r).1) Manager.init).nodes, m.v = p ∧ m.repo = n.repo ∧ m.locked = true :=
  fun n hn p hp => ((C07.reachable rs).inv.parent n hn p hp).2

/-- the extractor still finds the repaired shape of DeleteConflicts (conflict deletions of a resolve go into extension
    nodes, never into a committed parent); the resolve itself is not modelled -/
theorem repaired_shape_present : Gen.resolveKeepsCommittedParents = true := by decide

/-! ### ROI reads and the unversioned z extents

An ROI instance keeps `MinZ`/`MaxZ` as instance-wide properties that every POST at any version resets, so a read at
a committed version may not depend on them.  Which range the full-ROI readers scan and where the partition takes
its z range from are regenerated from datatype/roi/roi.go. -/

/-- the full-ROI read at a version: the spans (block z, rest) stored at it, restricted to the z extents when
    the reader scans only those -/
def roiSpans (scansAll : Bool) (ext : Int × Int) (stored : List (Int × Nat)) : List (Int × Nat) :=
  if scansAll then stored else stored.filter (fun s => decide (ext.1 ≤ s.1 ∧ s.1 ≤ ext.2))

/-- the z range a partition is laid out over -/
def roiZRange (fromVersion : Bool) (ext : Int × Int) (stored : List (Int × Nat)) : Int × Int :=
  if fromVersion then (stored.foldl (fun m s => min m s.1) 2147483647, stored.foldl (fun m s => max m s.1) (-2147483648))
  else ext

/-- GET roi / ptquery and GET partition at a version (`roiSpans`, `roiZRange` above, in the regenerated shapes) are the
    same whatever later POSTs at other versions made of the instance-wide extents -/
theorem roi_reads_ignore_unversioned_extents (e1 e2 : Int × Int) (stored : List (Int × Nat)) :
    roiSpans Gen.roiGetSpansScansAll e1 stored = roiSpans Gen.roiGetSpansScansAll e2 stored ∧
    roiZRange Gen.roiPartitionUsesVersionExtents e1 stored = roiZRange Gen.roiPartitionUsesVersionExtents e2 stored := by
  have h1 : Gen.roiGetSpansScansAll = true := by decide
  have h2 : Gen.roiPartitionUsesVersionExtents = true := by decide
  rw [h1, h2]
  exact ⟨rfl, rfl⟩

/-- the other shapes do depend on them: a narrower later ROI hides committed spans (seeded change C02-6) and moves
    the partition (the defect fixed in e8af9f5) -/
example : roiSpans false (1, 2) [(0, 7), (1, 7), (3, 7)] ≠ roiSpans false (0, 3) [(0, 7), (1, 7), (3, 7)] ∧
    roiZRange false (1, 2) [(0, 7)] ≠ roiZRange false (0, 3) [(0, 7)] := by decide

end Dvid.Props.C02
