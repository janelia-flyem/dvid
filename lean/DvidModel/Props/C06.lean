import DvidModel.Lemmas.Key
import DvidModel.Props.C12
/-
  C06 — Storage keys isolate data instances, data and versions.
  Ids range over the full 32-bit space (`U32 n := n < 2^32`, including 0 and max) but for `instance_range_exact`, which
  excludes the maximal instance id; tkeys are arbitrary byte strings, not prefix-related (`NoPrefix`) where two datums
  are compared, and of the `storage.NewTKey` form in `deleteAll_range_exact`.  The key builders are the layouts
  regenerated from storage/context.go (Gen.Keys), so these theorems are re-checked against the current source.
-/
namespace Dvid.Props.C06
open Dvid Dvid.Key

/-- the id encodings the model's `be32` stands for are still big-endian 4-byte encodings in the source
    (regenerated facts from dvid/data.go) -/
theorem id_encodings_big_endian :
    Gen.instanceIDBigEndian = true ∧ Gen.versionIDBigEndian = true ∧ Gen.clientIDBigEndian = true ∧
    Gen.instanceIDSize = 4 ∧ Gen.versionIDSize = 4 ∧ Gen.clientIDSize = 4 := by decide

/-- All components are recovered from any data/tombstone key. -/
theorem parse_construct (i v c : Nat) (tk : Bytes) (tomb : Bool) (hi : U32 i) (hv : U32 v) (hc : U32 c) :
    tkeyFromKey (dataKey i v c tk tomb) = some tk ∧
    dataKeyToLocalIDs (dataKey i v c tk tomb) = some (i, v, c) ∧
    versionFromKey (dataKey i v c tk tomb) = some v ∧
    isTombstone (dataKey i v c tk tomb) = tomb ∧
    isDataKey (dataKey i v c tk tomb) = true := by
  rw [tkeyFromKey_dataKey, dataKeyToLocalIDs_dataKey, versionFromKey_dataKey, isTombstone_dataKey, isDataKey_dataKey,
    Nat.mod_eq_of_lt hi, Nat.mod_eq_of_lt hv, Nat.mod_eq_of_lt hc]
  exact ⟨rfl, rfl, rfl, rfl, rfl⟩

/-- Distinct (instance, datum key, version, client, marker) tuples never share a storage key. -/
theorem construct_injective (i v c i' v' c' : Nat) (tk tk' : Bytes) (m m' : Bool)
    (hi : U32 i) (hv : U32 v) (hc : U32 c) (hi' : U32 i') (hv' : U32 v') (hc' : U32 c')
    (h : dataKey i v c tk m = dataKey i' v' c' tk' m') :
    i = i' ∧ tk = tk' ∧ v = v' ∧ c = c' ∧ m = m' :=
  dataKey_inj hi hv hc hi' hv' hc' h

/-- marker byte order: data (0x03) sorts before tombstone (0x4F) -/
def markOrd (m m' : Bool) : Ordering := if m = m' then .eq else if m' then .lt else .gt

/-- Keys sort by instance first. -/
theorem compare_instance (i v c i' v' c' : Nat) (tk tk' : Bytes) (m m' : Bool)
    (hi : U32 i) (hi' : U32 i') (hne : i ≠ i') :
    cmpBytes (dataKey i v c tk m) (dataKey i' v' c' tk' m') = if i < i' then .lt else .gt := by
  rw [dataKey_eq, dataKey_eq, cmpBytes_prefix hi hi']
  rcases Nat.lt_or_gt_of_ne hne with h | h
  · rw [if_pos h, if_pos h]
  · rw [if_neg (Nat.lt_asymm h), if_pos h, if_neg (Nat.lt_asymm h)]

/-- Within an instance keys sort by datum key, whenever the two datum keys are not prefix-related (the documented
    TKey rule: identical length or no shared prefix). -/
theorem compare_tkey (i v c v' c' : Nat) (tk tk' : Bytes) (m m' : Bool) (hp : NoPrefix tk tk') :
    cmpBytes (dataKey i v c tk m) (dataKey i v' c' tk' m') = cmpBytes tk tk' ∧ cmpBytes tk tk' ≠ .eq := by
  rw [dataKey_eq, dataKey_eq, cmpBytes_prefix_same]
  exact cmpBytes_append_noPrefix hp _ _

/-- Within a datum keys sort by version, then client, then marker. -/
theorem compare_version (i v c v' c' : Nat) (tk : Bytes) (m m' : Bool)
    (hv : U32 v) (hc : U32 c) (hv' : U32 v') (hc' : U32 c') :
    cmpBytes (dataKey i v c tk m) (dataKey i v' c' tk m') =
      if v < v' then .lt else if v' < v then .gt else
      if c < c' then .lt else if c' < c then .gt else markOrd m m' := by
  rw [dataKey_eq, dataKey_eq, cmpBytes_append_left, cmpBytes_be32 v v' hv hv', cmpBytes_be32 c c' hc hc']
  cases m <;> cases m' <;> rfl

/-- The prefix-free hypothesis of `compare_tkey` is necessary: when one datum key is a proper prefix of another the
    byte order interleaves their versions (datum `[7]` v=0x09000000 sorts *after* datum `[7,8]` v=0, although
    `[7] < [7,8]`). -/
theorem compare_tkey_prefix_counterexample :
    cmpBytes [7] [7, 8] = .lt ∧
    cmpBytes (dataKey 1 0x09000000 0 [7] false) (dataKey 1 0 0 [7, 8] false) = .gt := by
  decide

/-- All versions of one datum lie inside `[MinVersionKey, MaxVersionKey]`. -/
theorem versions_in_bracket (i v c : Nat) (tk : Bytes) (m : Bool) (hv : U32 v) (hc : U32 c) :
    bytesLE (minVersionKey i tk) (dataKey i v c tk m) = true ∧
    bytesLE (dataKey i v c tk m) (maxVersionKey i tk) = true := by
  have _ := hv
  have _ := hc
  simp only [bytesLE_iff]
  exact dataKey_in_bracket i v c tk m

/-- The bracket of one datum contains no key of another instance, nor of another datum key that is not
    prefix-related to it: versions of one datum are contiguous. -/
theorem versions_contiguous (i i' v' c' : Nat) (tk tk' : Bytes) (m' : Bool)
    (hi : U32 i) (hi' : U32 i')
    (hp : tk = tk' ∨ NoPrefix tk tk')
    (hlo : bytesLE (minVersionKey i tk) (dataKey i' v' c' tk' m') = true)
    (hhi : bytesLE (dataKey i' v' c' tk' m') (maxVersionKey i tk) = true) :
    i' = i ∧ tk' = tk := by
  rw [bytesLE_iff, minVersionKey_eq] at hlo
  rw [bytesLE_iff, maxVersionKey_eq] at hhi
  -- a key inside the bracket starts with the bracket's unversioned prefix
  obtain ⟨hii, hpre⟩ := of_prefix_dataKey hi hi' (prefix_of_between hlo hhi)
  refine ⟨hii, ?_⟩
  rcases hp with h | h
  · exact h.symm
  · exact absurd hpre (not_or.mpr h)

/-- a key of a later, not prefix-related datum lies beyond the version bracket of an earlier datum (what lets a
    range scan close a datum's group when it sees the key: C05 `versionedRange_eq_groups`) -/
theorem later_datum_beyond_bracket (i v' c' : Nat) (tk tk' : Bytes) (m' : Bool) (hp : NoPrefix tk' tk)
    (hgt : cmpBytes tk' tk = .gt) : cmpBytes (dataKey i v' c' tk' m') (maxVersionKey i tk) = .gt := by
  rw [dataKey_eq, maxVersionKey_eq, cmpBytes_prefix_same, (cmpBytes_append_noPrefix hp _ _).1]
  exact hgt

/-- Scans over one instance never meet another's entries: for `i < 2^32 - 1` every key of instance `i`
    lies in `[min, max)` of `DataInstanceKeyRange(i)` / `KeyRange()`, and no key of another instance does. -/
theorem instance_range_exact (i i' v c : Nat) (tk : Bytes) (m : Bool) (hi : i < 4294967295) (hi' : U32 i') :
    (bytesLE (instanceRangeMin i) (dataKey i' v c tk m) = true ∧
     bytesLT (dataKey i' v c tk m) (instanceRangeMax i) = true) ↔ i' = i := by
  have hs : U32 (i + 1) := Nat.succ_lt_succ hi
  rw [dataKey_eq, instanceRangeMin_eq, instanceRangeMax_eq, show u32succ i = i + 1 from Nat.mod_eq_of_lt hs]
  generalize be32 v ++ (be32 c ++ [if m then 79 else 3]) = T
  -- both comparisons are decided at the instance id: `min ≤ key` iff `i ≤ i'`, `key < max` iff `i' < i + 1`; on a tie
  -- the bound's empty tkey is compared with the rest of the key
  have e1 := cmpBytes_prefix (Nat.lt_of_succ_lt hs) hi' [] tk [] T
  have e2 := cmpBytes_prefix hi' hs tk [] T []
  rw [List.append_nil] at e1 e2
  simp only [bytesLE_iff, bytesLT_iff, e1, e2]
  constructor
  · rintro ⟨h1, h2⟩
    rcases Nat.lt_trichotomy i' i with h | h | h
    · rw [if_neg (by omega), if_pos h] at h1
      exact absurd rfl h1
    · exact h
    · rw [if_neg (by omega)] at h2
      split at h2
      · cases h2
      · exact absurd h2 (cmpBytes_nil_right _)
  · rintro rfl
    rw [if_neg (Nat.lt_irrefl _), if_neg (Nat.lt_irrefl _), if_pos (Nat.lt_succ_self _)]
    exact ⟨cmpBytes_zeros_le 0 (Nat.zero_le _), rfl⟩

/-- At the maximal instance id the `id+1` of the Go code wraps to 0 and the range is inverted (`max < min`):
    `instance_range_exact` needs `i < 2^32 - 1`.  Instance ids are allocated from a counter starting at 1, so this
    point is unreachable in practice; it is recorded, not claimed. -/
theorem instance_range_overflow :
    bytesLT (instanceRangeMax 4294967295) (instanceRangeMin 4294967295) = true := by decide

/-- `DeleteAll` on a versioned instance scans `[MinVersionKey(MinTKey(0)), MaxVersionKey(MaxTKey(255))]`.
    Of the keys whose datum key was made by `storage.NewTKey` (class byte, 0x01, body), those of that instance are
    inside and those of any other instance are not. -/
theorem deleteAll_range_exact (i i' v c cls : Nat) (body : Bytes) (m : Bool)
    (hi : U32 i) (hi' : U32 i') :
    (bytesLE (minVersionKey i (minTKey Gen.tkeyMinClass)) (dataKey i' v c (newTKey cls body) m) = true ∧
     bytesLE (dataKey i' v c (newTKey cls body) m) (maxVersionKey i (maxTKey Gen.tkeyMaxClass)) = true)
    ↔ i' = i := by
  simp only [bytesLE_iff, minVersionKey_eq, maxVersionKey_eq]
  constructor
  · rintro ⟨h1, h2⟩
    -- both ends start with the instance's prefix (empty tkey); so does a key between them
    rw [unversionedKeyPrefix_append, List.append_assoc] at h1 h2
    exact (of_prefix_dataKey hi hi' (prefix_of_between h1 h2)).1
  · rintro rfl
    rw [dataKey_eq, cmpBytes_prefix_same, cmpBytes_prefix_same]
    constructor
    · -- the lower end is eleven zero bytes
      exact cmpBytes_zeros_le 11 (by simp [newTKey])
    · -- the class byte is at most 0xFF, and then the standard byte 0x01 is below 0xFF
      show cmpBytes (UInt8.ofNat cls :: 1 :: _) (255 :: 255 :: _) ≠ .gt
      refine cmpBytes_cons_le (byte_le_max _) ?_
      rw [cmpBytes_cons_lt (show (1 : UInt8) < 255 by decide)]
      exact Ordering.noConfusion

/- Non-vacuity: the hypotheses are met by concrete boundary values (0 and max ids, empty tkey). -/
example : U32 0 ∧ U32 4294967295 ∧
    tkeyFromKey (dataKey 4294967295 0 4294967295 [] true) = some [] ∧
    dataKeyToLocalIDs (dataKey 4294967295 0 4294967295 [] true) = some (4294967295, 0, 4294967295) := by
  decide
example : NoPrefix ([1, 1, 97, 0] : Bytes) [1, 1, 97, 98, 0] := by
  constructor <;> decide

/-- `C12.drawInstance_fresh`, for what it means to the key layout: a new data instance does not receive the id of a
    live one, however far the stored id counter lags behind (concurrent requests store the counters out of order),
    given the fuel to pass the largest live id.  With distinct ids the theorems above keep the storage of two instances
    apart; that step is not stated.  The re-draw in `newInstanceID` is regenerated from the source. -/
theorem new_instance_id_not_live (live : List Nat) (ctr fuel : Nat)
    (hf : Dvid.Props.C12.sup live + 1 ≤ ctr + fuel) :
    Dvid.Props.C12.drawInstance Gen.newInstanceIdSkipsLiveIds live ctr fuel ∉ live :=
  Dvid.Props.C12.drawInstance_fresh live ctr fuel hf

end Dvid.Props.C06
