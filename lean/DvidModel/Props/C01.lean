import DvidModel.Spec.Visible
import DvidModel.Lemmas.Resolve
import DvidModel.Lemmas.Store
/-
  C01 — Versioned reads resolve to the nearest ancestor write in the version DAG.
  `findMatch` (Model/Resolve) is the literal mirror of datastore/repo_local.go, tied to it by the regenerated shape
  facts (`Gen.Resolver`) and by differential execution against the real resolver on real DAGs.
-/
namespace Dvid.Props.C01
open Dvid Dvid.Resolve Dvid.Spec Dvid.Store Dvid.Key

/-- **Locality**: writes at versions other than `v` and its ancestors (siblings, descendants, other branches, other
    repos) never affect a read at `v`. -/
theorem read_locality (d : Dag) (es es' : Entries) (v : Nat) (h : ∀ a, Anc d v a → es a = es' a) :
    readAt d es v = readAt d es' v :=
  congrArg Prod.fst (findMatchWith_congr pickCur d es es' (v + 1) [] v h)

/-- **Soundness**: a read returns only a value written at `v` or at an ancestor of `v`. -/
theorem read_sound (d : Dag) (es : Entries) (v a x : Nat) (h : readAt d es v = .found a x) :
    es a = some (.val x) ∧ Anc d v a :=
  findMatchWith_sound pickCur pickCur_sound d es (v + 1) [] v a x _ (Prod.ext h rfl)

theorem read_own_write (d : Dag) (es : Entries) (v x : Nat) (h : es v = some (.val x)) : readAt d es v = .found v x := by
  simp [readAt, findMatch, findMatchWith, h]

theorem read_own_delete (d : Dag) (es : Entries) (v : Nat) (h : es v = some .tomb) : readAt d es v = .none := by
  simp [readAt, findMatch, findMatchWith, h]

/-- along an ancestry without merges the read is the nearest entry: the closest value, hidden by a closer
    deletion -/
theorem read_linear (d : Dag) (es : Entries) (v : Nat) (hl : Linear d v) : readAt d es v = nearest d es (v + 1) v :=
  findMatchWith_linear pickCur d es (v + 1) v hl

/-- the recursion is well founded on real DAGs -/
theorem fuel_irrelevant (d : Dag) (hwf : d.WF) (es : Entries) (f : Nat) (m : Marks) (v : Nat) (h : v < f) :
    findMatch d es f m v = findMatch d es (v + 1) m v :=
  findMatchWith_fuel pickCur d hwf es f (v + 1) m v h (by omega)

/- Non-vacuity: a real diamond satisfies `Dag.WF`. -/
example : (Dag.ofList [[], [], [1], [1], [2, 3]]).WF := by
  intro v
  match v with
  | 0 | 1 | 2 | 3 | 4 => decide
  | n + 5 => exact fun p hp => nomatch hp

/-! ### the full statement does not hold: shape (ii) is a `decide`d witness, shape (i) was one until the source was
    repaired (both replayed on the real server by the harness; see KNOWN_FINDINGS.txt) -/

/-- shape (i) *last-found-superseded* — a 3-parent merge `6 = merge[3,4,5]`: parent 3 holds X, parent 4
    inherits Y from 2, parent 5 deleted it below 2.  The unsuperseded live value is X@3. -/
def dag_i : Dag := Dag.ofList [[], [], [1], [1], [2], [2], [3, 4, 5]]
def es_i : Entries := entriesOfList [none, none, some (.val 20), some (.val 10), none, some .tomb, none]

theorem spec_i : specRead dag_i es_i 6 = .value 3 10 := by decide
/-- the resolver as the source has it now agrees with the specification here.  Before the `fix:` commit
    (KNOWN_FINDINGS.txt) `case 1` returned the last match found, Y@2 (`lastfound_i`); `Gen.mergeReturnsSurvivor` is
    regenerated from the source, so this theorem fails again if the repair is lost. -/
theorem shape_i_resolved : readAt dag_i es_i 6 = .found 3 10 := by decide
/-- with the decision as originally written (`Resolve.decide`, which `readAt` no longer runs) the deleted Y@2 returns -/
theorem lastfound_i : (findMatchWith Resolve.decide dag_i es_i 7 [] 6).1 = .found 2 20 := by decide
/-- the structural facts the mirror relies on are still what the source says -/
theorem resolver_shape : Gen.mergeEagerError = true ∧ Gen.mergePrunesInvalid = true := by decide

/-- shape (ii) *inner conflict before supersession* — `5 = merge[2,3]` is conflicted by itself (2 and 3
    both hold values), `4` deletes below 2, `6 = merge[5,4]`: the specification reads the value of 3 at 6
    (the deletion at 4 supersedes 2), the resolver returns the inner merge's conflict error or, with the
    parents of 6 in the other order, the value of 3: parent-order dependent. -/
def dag_ii : Dag := Dag.ofList [[], [], [1], [1], [2], [2, 3], [5, 4]]
def dag_ii' : Dag := Dag.ofList [[], [], [1], [1], [2], [2, 3], [4, 5]]
def es_ii : Entries := entriesOfList [none, none, some (.val 20), some (.val 10), some .tomb, none, none]
theorem witness_ii : specRead dag_ii es_ii 6 = .value 3 10 ∧ readAt dag_ii es_ii 6 = .err ∧
    readAt dag_ii' es_ii 6 = .found 3 10 := by decide

/-! ### store level: the two-key transactions of Put/Delete and reads through the DAG -/

theorem getV_own (d : Dag) {s : KV} {i v : Nat} {tk x : Bytes} (ht : s (dataKey i v 0 tk true) = none)
    (hx : s (dataKey i v 0 tk false) = some x) : getV d s i tk v = some x := by
  rw [getV, read_own_write d _ v v (entryAt_val ht hx)]
  exact hx

theorem getV_putV (d : Dag) (s : KV) (i v : Nat) (tk val : Bytes) : getV d (putV s i v tk val) i tk v = some val :=
  getV_own d (putV_own s i v tk val true) (putV_own s i v tk val false)

/-- a read returns what was last written at that version (the two bounds are not needed: `getV_putV`) -/
theorem get_put_same (d : Dag) (s : KV) (i v : Nat) (tk val : Bytes) (hi : U32 i) (hv : U32 v) :
    getV d (putV s i v tk val) i tk v = some val := by
  have _ := hi
  have _ := hv
  exact getV_putV d s i v tk val

/-- a deletion at a version hides every older value at that version -/
theorem get_delete_same (d : Dag) (s : KV) (i v : Nat) (tk : Bytes) :
    getV d (delV s i v tk) i tk v = none := by
  rw [getV, read_own_delete d _ v (entryAt_tomb (delV_own s i v tk true))]

/-- **Store-level locality**: a read of a datum at `v` looks only at that datum's keys at `v` and its ancestors: two
    stores, or two instances of one store, that agree there read alike. -/
theorem getV_congr (d : Dag) (s t : KV) (i j : Nat) (tk : Bytes) (v : Nat)
    (h : ∀ a, Anc d v a → ∀ m, t (dataKey j a 0 tk m) = s (dataKey i a 0 tk m)) :
    getV d t j tk v = getV d s i tk v := by
  have hes : ∀ a, Anc d v a → entryAt t j tk a = entryAt s i tk a := by
    intro a ha
    rw [entryAt, entryAt, h a ha true, h a ha false]
  rw [getV, getV, read_locality d _ _ v hes]
  cases hr : readAt d (entryAt s i tk) v with
  | found a x => exact h a (read_sound d _ v a x hr).2 false
  | none => rfl
  | err => rfl

/-- **Store-level soundness**: a read returns only what is stored under a value key of the datum at `v` or at an
    ancestor of `v`. -/
theorem getV_none (d : Dag) (s : KV) (i : Nat) (tk : Bytes) (v : Nat)
    (h : ∀ a, Anc d v a → s (dataKey i a 0 tk false) = none) : getV d s i tk v = none := by
  rw [getV]
  cases hr : readAt d (entryAt s i tk) v with
  | found a x => exact h a (read_sound d _ v a x hr).2
  | none => rfl
  | err => rfl

/-- a write or delete at version `w` of datum `(i, tk)` (`t`: any store differing from `s` at most under that version's
    two keys) changes no read except those of the same datum at `w` or a descendant of `w` -/
theorem getV_write_other (d : Dag) (s t : KV) (i i' v w : Nat) (tk tk' : Bytes)
    (hi : U32 i) (hi' : U32 i') (hw : U32 w) (hbound : ∀ a, Anc d v a → U32 a)
    (ht : ∀ k, k ≠ dataKey i w 0 tk false → k ≠ dataKey i w 0 tk true → t k = s k)
    (hne : ¬ (i' = i ∧ tk' = tk ∧ Anc d v w)) : getV d t i' tk' v = getV d s i' tk' v := by
  apply getV_congr
  intro a ha m
  have hk : ∀ m', dataKey i' a 0 tk' m ≠ dataKey i w 0 tk m' := fun _ =>
    dataKey_ne_of hi' (hbound a ha) hi hw (fun e => hne ⟨e.1, e.2.1, e.2.2 ▸ ha⟩)
  exact ht _ (hk false) (hk true)

theorem get_delete_other_datum (d : Dag) (s : KV) (i i' v w : Nat) (tk tk' : Bytes)
    (hi : U32 i) (hi' : U32 i') (hw : U32 w) (hbound : ∀ a, Anc d v a → U32 a) (hne : ¬ (i' = i ∧ tk' = tk)) :
    getV d (delV s i w tk) i' tk' v = getV d s i' tk' v :=
  getV_write_other d s _ i i' v w tk tk' hi hi' hw hbound (delV_other s i w tk) (fun h => hne ⟨h.1, h.2.1⟩)

theorem noBoth_write {s t : KV} {i w : Nat} {tk : Bytes} (hi : U32 i) (hw : U32 w) (hs : NoBoth s)
    (ht : ∀ k, k ≠ dataKey i w 0 tk false → k ≠ dataKey i w 0 tk true → t k = s k)
    (hown : (t (dataKey i w 0 tk false)).isSome = false ∨ (t (dataKey i w 0 tk true)).isSome = false) : NoBoth t := by
  intro i' ver' tk' hi' hv' hboth
  by_cases hsame : i' = i ∧ tk' = tk ∧ ver' = w
  · obtain ⟨rfl, rfl, rfl⟩ := hsame
    rcases hown with h | h
    · exact Bool.noConfusion (h ▸ hboth.1)
    · exact Bool.noConfusion (h ▸ hboth.2)
  · have hk : ∀ m m', dataKey i' ver' 0 tk' m ≠ dataKey i w 0 tk m' := fun _ _ => dataKey_ne_of hi' hv' hi hw hsame
    rw [ht _ (hk false false) (hk false true), ht _ (hk true false) (hk true true)] at hboth
    exact hs i' ver' tk' hi' hv' hboth

/-- in every store reachable through Put/Delete with 32-bit ids (`Op.WF`) no version holds both a value key and a
    tombstone key, the one state in which a version's entry would depend on which of the two counts (`Store.entryAt`) -/
theorem noBoth_reachable (ops : List Op) (hwf : ∀ o ∈ ops, o.WF) : NoBoth (ops.foldl Op.apply empty) := by
  refine List.foldlRecOn ops Op.apply (motive := NoBoth) (fun _ _ _ _ _ h => Bool.noConfusion h.1) ?_
  intro s hs o ho
  have ho := hwf o ho
  cases o with
  | put i ver tk val =>
    exact noBoth_write ho.1 ho.2 hs (putV_other s i ver tk val)
      (.inr (congrArg Option.isSome (putV_own s i ver tk val true)))
  | del i ver tk =>
    exact noBoth_write ho.1 ho.2 hs (delV_other s i ver tk)
      (.inl (congrArg Option.isSome (delV_own s i ver tk false)))

end Dvid.Props.C01
