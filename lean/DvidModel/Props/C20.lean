import DvidModel.Model.BlockParse
import DvidModel.Lemmas.Block
import DvidModel.Props.C15
import DvidModel.Lemmas.Rle
import DvidModel.Gen.Fixes
/-
  C20 — No request can crash the server; malformed ones are rejected harmlessly.

  The for-all over byte strings is carried by the binary parsers.  Proved here for the compressed label block —
  the payload whose embedded counts and table indices every view trusts — for every byte string, of any length:
  * a block with two or more labels that `readStreamedBlock` hands on (parse + Validate both succeed) has
    mutually consistent tables (`received_inBounds`; per sub-block, the clauses of `SBInBounds`);
  * hence no read of the decoder, the point lookup and the counting views leaves its table at a sub-block that
    lists a label; one that lists none passes `Validate` and is not covered (`views_inBounds`);
  * a block the parser returns has every table it sliced inside the byte string (`parse_reads_inBounds`; a read
    beyond the end would not show in the model, whose `byteAt` gives 0 there).
  The model parser is total by construction (a Lean function); the points where the Go code would panic are
  the checks named in `Gen.BlockParse`.  The proofs use `blkChecksLabelTableBound`, `blkChecksIndexTableBound`,
  `blkValidateChecksTables` and `blkStreamValidates` being `true`; the model branches on the other three, but
  `source_facts` alone depends on their value.
  Other byte-level parsers: the sparse-volume reader `ReadRLEs` (`readRLEs_complete`, `reader_allocation_bounded`);
  the serialization envelope (`envelope_total`, which is C15's `deser_total`).  The log reader has no statement
  here: C04 `filelog_prefix` shows that a log with a torn tail reads as its complete records.  Everything else
  (protobuf, JSON, the content of sparse-volume payloads, URL parsing, background goroutines, wedges) is left to
  the harness: it sends byte-level mutants of valid payloads for every ingestion endpoint and hostile URLs to a
  real server process and checks liveness, idleness, absence of recovered panics on payload requests, and
  untouched data.
-/
namespace Dvid.Props.C20
open Dvid Dvid.Block Dvid.BlockParse

theorem source_facts :
    Gen.blkChecksLabelTableBound = true ∧ Gen.blkRejectsEmptyGrid = true ∧ Gen.blkChecksCountTableBound = true ∧
    Gen.blkChecksIndexTableBound = true ∧ Gen.blkValidateChecksTables = true ∧ Gen.blkStreamValidates = true ∧
    Gen.blkMinBytes = 24 ∧ Gen.rleReaderAllocatesAsRead = true := by decide

/-- the tables of a multi-label block are consistent at a sub-block with `n` labels whose index list starts at
    `st.1` and whose packed values start at bit `st.2` -/
structure SBInBounds (b : Block) (st : Nat × Nat) (n : Nat) : Prop where
  count : n ≤ 512
  list : st.1 + n ≤ b.sbIdx.size
  labels : ∀ j, j < n → b.sbIdx.getD (st.1 + j) 0 < b.labels.size
  bits : 1 < n → st.2 + 512 * bitsFor n ≤ 8 * b.values.size
  vals : 1 < n → ∀ i, i < 512 → getPacked b.values (st.2 + i * bitsFor n) (bitsFor n) < n

theorem validSB_inBounds {b : Block} {st : Nat × Nat} {n : Nat} (h : validSB b st n = true) : SBInBounds b st n := by
  simp only [validSB, Bool.and_eq_true, Bool.or_eq_true, decide_eq_true_eq, List.all_eq_true, List.mem_range] at h
  obtain ⟨⟨⟨h1, h2⟩, h3⟩, h4⟩ := h
  exact ⟨h1, h2, h3, fun hn => (h4.resolve_left (by omega)).1, fun hn => (h4.resolve_left (by omega)).2⟩

/-- `Validate`'s loop carries exactly the running positions the views compute (`sbStart`) -/
theorem validFrom_all (b : Block) (l : List Nat) (st : Nat × Nat) (h : validFrom b st l = true)
    (k : Nat) (hk : k < l.length) : validSB b ((l.take k).foldl sbAdvance st) l[k] = true := by
  induction l generalizing st k with
  | nil => cases hk
  | cons n ns ih =>
    rw [validFrom, Bool.and_eq_true] at h
    cases k with
    | zero => exact h.1
    | succ k => exact ih (sbAdvance st n) h.2 k (Nat.lt_of_succ_lt_succ hk)

def InBounds (b : Block) : Prop :=
  0 < b.gx ∧ 0 < b.gy ∧ 0 < b.gz ∧ 1 ≤ b.labels.size ∧
  (2 ≤ b.labels.size → b.numSB.size = b.gx * b.gy * b.gz ∧
    ∀ k (hk : k < b.numSB.size), SBInBounds b (sbStart b.numSB.toList k) b.numSB[k])

theorem InBounds.multi {b : Block} (h : InBounds b) (h2 : 2 ≤ b.labels.size) :
    b.numSB.size = b.gx * b.gy * b.gz ∧
      ∀ k (hk : k < b.numSB.size), SBInBounds b (sbStart b.numSB.toList k) b.numSB[k] := h.2.2.2.2 h2

theorem validate_inBounds (b : Block) (h : validate b = true) : InBounds b := by
  simp only [validate, Gen.blkValidateChecksTables, Bool.not_true, Bool.false_eq_true, ↓reduceIte, Bool.and_eq_true,
    Bool.or_eq_true, decide_eq_true_eq, beq_iff_eq] at h
  obtain ⟨⟨hg, hl⟩, hrest⟩ := h
  refine ⟨hg.1, hg.2.1, hg.2.2, hl, fun h2 => ?_⟩
  obtain ⟨hsz, hv⟩ := hrest.resolve_left (by omega)
  refine ⟨hsz, fun k hk => ?_⟩
  have hsb := validFrom_all b b.numSB.toList (0, 0) hv k (by simpa using hk)
  rw [Array.getElem_toList] at hsb
  exact validSB_inBounds hsb

/-- **every block the ingest path hands on has consistent tables — for every byte string** -/
theorem received_inBounds (d : Array UInt8) (b : Block) (h : receive d = some b) : InBounds b := by
  unfold receive at h
  split at h
  next => cases h
  next b' _ =>
    rw [Option.ite_none_left_eq_some, Option.some.injEq] at h
    obtain ⟨hv, rfl⟩ := h
    exact validate_inBounds b' (by simpa [Gen.blkStreamValidates] using hv)

/-- the one or two value bytes `getPackedValue` touches are inside the value table -/
theorem packed_read_inBounds (vals : Array Nat) (bitHead bits : Nat) (hb : 1 ≤ bits)
    (h : bitHead + bits ≤ 8 * vals.size) :
    bitHead >>> 3 < vals.size ∧ (bitHead % 8 + bits > 8 → (bitHead >>> 3) + 1 < vals.size) := by
  rw [Nat.shiftRight_eq_div_pow]
  constructor <;> omega

theorem SBInBounds.views {b : Block} {st : Nat × Nat} {n : Nat} (sb : SBInBounds b st n) (i : Nat) (hi : i < 512) :
    (1 ≤ n → slotAt b st n i < st.1 + n ∧ slotAt b st n i < b.sbIdx.size ∧
      b.sbIdx.getD (slotAt b st n i) 0 < b.labels.size) ∧
    (1 < n → (st.2 + i * bitsFor n) >>> 3 < b.values.size ∧
      ((st.2 + i * bitsFor n) % 8 + bitsFor n > 8 → ((st.2 + i * bitsFor n) >>> 3) + 1 < b.values.size)) := by
  refine ⟨fun hn => ?_, fun hn => ?_⟩
  · -- the position a voxel selects is `st.1 + j` for a `j < n`
    obtain ⟨j, hj, e⟩ : ∃ j, j < n ∧ slotAt b st n i = st.1 + j := by
      unfold slotAt
      split
      · exact ⟨0, hn, rfl⟩
      · exact ⟨_, sb.vals (by omega) i hi, rfl⟩
    rw [e]
    exact ⟨Nat.add_lt_add_left hj _, Nat.lt_of_lt_of_le (Nat.add_lt_add_left hj _) sb.list, sb.labels j hj⟩
  · -- voxel `i`'s value ends where voxel `i + 1`'s starts, at most at the end of the sub-block's 512 values
    have h1 : 1 ≤ bitsFor n := Nat.pos_of_ne_zero fun e => Nat.not_le_of_lt hn ((bitsFor_eq_zero_iff n).1 e)
    have hend := Nat.mul_le_mul_right (bitsFor n) (Nat.succ_le_of_lt hi)
    rw [Nat.succ_mul] at hend
    exact packed_read_inBounds b.values _ _ h1
      (Nat.le_trans (by rw [Nat.add_assoc]; exact Nat.add_le_add_left hend _) (sb.bits hn))

/-- **at a sub-block that lists a label no view leaves the tables**: for every voxel `i` of a sub-block `k` with
    `n ≥ 1` labels, the position the voxel selects is inside the sub-block's own index list (so inside the index
    table) and the index stored there names a label; for `n ≥ 2` the value bytes read for it exist.
    Nothing is claimed for `n = 0`, which `Validate` accepts: the decoder, `getNumVoxels` and `GetPointLabels` pass
    over such a sub-block without a table read, but the point lookup `Block.Value` (`valueNat`) reads `sbIdx` at
    `st.1`, which belongs to the next sub-block or lies outside the table. -/
theorem views_inBounds (b : Block) (hb : InBounds b) (h2 : 2 ≤ b.labels.size) (k : Nat) (hk : k < b.numSB.size)
    (i : Nat) (hi : i < 512) (st : Nat × Nat) (n : Nat) (hst : st = sbStart b.numSB.toList k) (hnk : n = b.numSB[k]) :
    (1 ≤ n → slotAt b st n i < st.1 + n ∧ slotAt b st n i < b.sbIdx.size ∧
      b.sbIdx.getD (slotAt b st n i) 0 < b.labels.size) ∧
    (1 < n → (st.2 + i * bitsFor n) >>> 3 < b.values.size ∧
      ((st.2 + i * bitsFor n) % 8 + bitsFor n > 8 → ((st.2 + i * bitsFor n) >>> 3) + 1 < b.values.size)) := by
  subst hst hnk
  exact ((hb.multi h2).2 k hk).views i hi

/-! Every stage of the parser is a chain of refusals in front of one construction: a block that is returned
    passed them all. -/

theorem parseIdx_bounds {d : Array UInt8} {gx gy gz : Nat} {labels numSB : Array Nat} {pos2 nIdx : Nat} {b : Block}
    (h : parseIdx d gx gy gz labels numSB pos2 nIdx = some b) :
    b.labels = labels ∧ b.numSB = numSB ∧ b.sbIdx.size = nIdx ∧ pos2 + 4 * nIdx ≤ d.size := by
  simp only [parseIdx, Gen.blkChecksIndexTableBound, Bool.true_and, decide_eq_true_eq,
    Option.ite_none_left_eq_some, Option.some.injEq] at h
  obtain ⟨hle, _, rfl⟩ := h
  exact ⟨rfl, rfl, Array.size_ofFn, by omega⟩

theorem parseCounts_bounds {d : Array UInt8} {gx gy gz : Nat} {labels : Array Nat} {pos nsb : Nat} {b : Block}
    (h : parseCounts d gx gy gz labels pos nsb = some b) :
    b.labels = labels ∧ b.numSB.size = nsb ∧ pos + 2 * nsb + 4 * b.sbIdx.size ≤ d.size := by
  simp only [parseCounts, Option.ite_none_left_eq_some] at h
  obtain ⟨h1, h2, h3, h4⟩ := parseIdx_bounds h.2.2
  exact ⟨h1, by rw [h2, Array.size_ofFn], by rw [h3]; exact h4⟩

theorem parse_bounds (d : Array UInt8) (b : Block) (h : parse d = some b) :
    16 + 8 * b.labels.size + 2 * b.numSB.size + 4 * b.sbIdx.size ≤ d.size := by
  simp only [parse, Option.ite_none_left_eq_some] at h
  obtain ⟨_, _, _, _, hl, h⟩ := h
  split at h
  · rw [Option.some.injEq] at h
    subst h
    simp only [Gen.blkChecksLabelTableBound, Bool.true_and, decide_eq_true_eq] at hl
    simp only [Array.size_ofFn, List.size_toArray, List.length_nil]
    omega
  · obtain ⟨h1, h3, h4⟩ := parseCounts_bounds h
    rw [h1, Array.size_ofFn]
    omega

theorem parse_reads_inBounds (d : Array UInt8) (b : Block) (h : parse d = some b) (h2 : 2 ≤ b.labels.size) :
    16 + 8 * b.labels.size + 2 * b.numSB.size + 4 * b.sbIdx.size ≤ d.size :=
  have _ := h2
  parse_bounds d b h

/-- a concrete well-formed block is received, a damaged one is refused -/
example : (receive #[1,0,0,0, 1,0,0,0, 1,0,0,0, 1,0,0,0, 7,0,0,0,0,0,0,0]).isSome = true := by decide
example : (receive #[1,0,0,0, 1,0,0,0, 1,0,0,0, 200,0,0,0, 7,0,0,0,0,0,0,0]).isSome = false := by decide

/-! ### sparse volumes (`dvid.ReadRLEs`) -/

/-- a sparse volume is only accepted when every announced run is really there -/
theorem readRLEs_complete (b : Bytes) (rs : List Rle.RLE) (h : Rle.readRLEs b = some rs) :
    12 + 16 * rs.length ≤ b.length := by
  simp only [Rle.readRLEs, Option.ite_none_left_eq_some, Option.some.injEq] at h
  obtain ⟨h12, _, hn, rfl⟩ := h
  rw [Rle.unmarshalAux_length]
  omega

/-- what the reader allocates (a closed formula, not a model of its loop) is bounded by a constant plus the bytes
    received — whatever count the payload announces (with the fact `rleReaderAllocatesAsRead` false the bound is
    the announced count: 2^32 runs) -/
theorem reader_allocation_bounded (b : Bytes) :
    Rle.readerAllocatedRuns b ≤ Gen.rleReaderMaxPrealloc + 2 * (b.length / 16) := by
  unfold Rle.readerAllocatedRuns
  split
  · exact Nat.zero_le _
  · simp only [Gen.rleReaderAllocatesAsRead, ↓reduceIte]
    exact Nat.add_le_add (Nat.min_le_right _ _)
      (Nat.mul_le_mul_left 2 (Nat.le_trans (Nat.min_le_right _ _) (Nat.div_le_div_right (Nat.sub_le _ 12))))

/-- the serialization envelope around stored and posted values: no byte string makes `DeserializeData` panic -/
theorem envelope_total (cd : Dvid.Serialize.Codecs) (s : Bytes) (u : Bool) : Dvid.Serialize.deserializeData cd s u ≠ .panic :=
  Dvid.Props.C15.deser_total cd s u

/-- the repaired shape of the single-block raw read is present: an absent block is label 0, not a nil dereference
    (the regenerated fact alone: no definition branches on it) -/
theorem repaired_shape_present : Gen.rawBlockNilIsBackground = true := by decide

end Dvid.Props.C20
