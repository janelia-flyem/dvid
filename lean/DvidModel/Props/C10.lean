import DvidModel.Lemmas.BlockOps
import DvidModel.Props.C09
/-
  C10 — Operations on compressed label blocks equal the voxel-wise reference.
  Proved for every well-formed block (`wfBlock`, which the driver evaluates on every block the harness feeds it):
  the table edits `ReplaceLabels` and `ReplaceLabel` against the voxel-wise relabelling of the decoded array,
  `getNumVoxels` of a multi-label block against the voxels encoded through a table slot, the 2x2x2 down-sampling
  vote.  Left to the correspondence harness against a voxel-wise reference (DESIGN.md §4 C10): `MergeLabels`, the
  RLE splits, the octant assembly of `Downres`.
-/
namespace Dvid.Props.C10
open Dvid Dvid.Block Dvid.Props.C09

/-- a re-labelled table decodes to the voxel-wise re-labelling, whatever aliasing the table has -/
theorem decode_relabel (b : Block) (g : Nat → Nat) (h : wfBlock b = true) :
    decode { b with labels := b.labels.map g } = (decode b).map g :=
  decode_map b _ g ⟨rfl, rfl, rfl⟩ (voxLabel_relabel b g h)

/-- `ReplaceLabels`: simultaneous (no chaining), label 0 included -/
theorem replaceLabels_decode (m : Nat → Option Nat) (b : Block) (h : wfBlock b = true) :
    decode (replaceLabels m b) = (decode b).map fun l => (m l).getD l :=
  decode_relabel b _ h

theorem replaceLabel_decode (b : Block) (target newLabel : Nat) (h : wfBlock b = true) :
    decode (replaceLabel b target newLabel).1 = (decode b).map fun l => if l = target then newLabel else l :=
  decode_relabel b _ h

/-- `getNumVoxels` for a table slot is the number of voxels encoded through that slot, sub-blocks that list the slot
    several times or not at all included.  A solid block has no sub-block tables; nothing is proved about its
    count. -/
theorem getNumVoxels_eq_slotCount (b : Block) (h2 : 2 ≤ b.labels.size) (h : wf b = true) (t : Nat) :
    getNumVoxels b t = slotCount b t := by
  obtain ⟨_, hsb, _⟩ := wf_spec b h
  rw [getNumVoxels, if_neg (by omega), if_neg (by omega), slotCount, fold_numVoxStep b t b.numSB.toList (0, 0) 0,
    Nat.zero_add]
  -- left: `hok` of `fold_numVoxStep`, the third clause of `wf_spec` once `toList[k]` is read as `getD k 0`
  intro k hk _
  have hk' : k < b.numSB.size := by simpa using hk
  obtain ⟨_, _, hslot⟩ := hsb k hk'
  rwa [show b.numSB.toList[k] = b.numSB.getD k 0 by simp [Array.getD_eq_getD_getElem?, hk']]

/-- the count `ReplaceLabel` reports is the number of voxels encoded through the table slots holding the target -/
theorem replaceLabel_size (b : Block) (target newLabel : Nat) (h2 : 2 ≤ b.labels.size) (h : wf b = true) :
    (replaceLabel b target newLabel).2 =
      ((List.range b.labels.size).filter fun i => b.labels.getD i 0 == target).foldl (fun acc i => acc + slotCount b i) 0 := by
  unfold replaceLabel
  simp only [getNumVoxels_eq_slotCount b h2 h]

/-- in either order the winner is a greatest element of the same set, and `Beats` is antisymmetric -/
theorem pickWinner_perm (m m' : List (Nat × Nat)) (h : m'.Perm m) : pickWinner m' = pickWinner m := by
  rw [pickWinner_eq, pickWinner_eq]
  obtain ⟨hm1, ha1⟩ := fold_better m (0, 0)
  obtain ⟨hm2, ha2⟩ := fold_better m' (0, 0)
  have hp : ∀ p, p ∈ (0, 0) :: m' ↔ p ∈ (0, 0) :: m := fun p => by rw [List.mem_cons, List.mem_cons, h.mem_iff]
  exact (ha2 _ ((hp _).2 hm1)).antisymm (ha1 _ ((hp _).1 hm2))

theorem pickWinner_max (m : List (Nat × Nat)) :
    (pickWinner m = (0, 0) ∨ pickWinner m ∈ m) ∧ ∀ p ∈ m, Beats (pickWinner m) p := by
  rw [pickWinner_eq]
  obtain ⟨hm, ha⟩ := fold_better m (0, 0)
  exact ⟨List.mem_cons.1 hm, fun p hp => ha p (List.mem_cons_of_mem _ hp)⟩

/-- whatever order Go's `range votemap` takes, the vote is the model's -/
theorem vote_any_iteration_order (ls : List Nat) (m' : List (Nat × Nat)) (h : m'.Perm (tally ls)) :
    (pickWinner m').1 = vote ls := by
  rw [vote, pickWinner_perm _ _ h]

/-- the 2x2x2 vote: 0 iff no non-zero label; otherwise a label of the input with the most occurrences among
    non-zero labels, the smallest such label on ties -/
theorem vote_spec (ls : List Nat) :
    (vote ls = 0 ∧ ∀ l ∈ ls, l = 0) ∨
    (vote ls ≠ 0 ∧ vote ls ∈ ls ∧ ∀ l ∈ ls, l ≠ 0 →
      ls.count l < ls.count (vote ls) ∨ (ls.count l = ls.count (vote ls) ∧ vote ls ≤ l)) := by
  have inv := tally_inv ls
  obtain ⟨hm, hall⟩ := pickWinner_max (tally ls)
  have key : ∀ l ∈ ls, l ≠ 0 →
      ls.count l < (pickWinner (tally ls)).2 ∨ (ls.count l = (pickWinner (tally ls)).2 ∧ (pickWinner (tally ls)).1 ≤ l) := by
    intro l hl hl0
    obtain ⟨p, hp, rfl⟩ := List.mem_map.1 (inv.complete l hl hl0)
    rw [← (inv.entries p hp).2.1]
    exact hall p hp
  unfold vote
  rcases hm with h0 | hmem
  · refine Or.inl ⟨by rw [h0], fun l hl => Decidable.byContradiction fun hl0 => ?_⟩
    have hk := key l hl hl0
    have := List.count_pos_iff.2 hl
    rw [h0] at hk
    omega
  · obtain ⟨hne, hcnt, hpos⟩ := inv.entries _ hmem
    rw [← hcnt]
    exact Or.inr ⟨hne, List.count_pos_iff.1 (by omega), key⟩

theorem vote_const {ls : List Nat} {l : Nat} (hne : ls ≠ []) (h : ∀ v ∈ ls, v = l) : vote ls = l := by
  rcases vote_spec ls with ⟨h0, hall⟩ | ⟨_, hm, _⟩
  · obtain ⟨a, ha⟩ := List.exists_mem_of_ne_nil ls hne
    rw [h0, ← h a ha, hall a ha]
  · exact h _ hm

example : vote [3, 0, 7, 7, 3, 0, 0, 9] = 3 ∧ vote [0, 0, 0, 0, 0, 0, 0, 0] = 0 ∧ vote [5, 5, 5, 2, 2, 2, 2, 0] = 2 := by decide
example : wfBlock demo = true ∧ getNumVoxels demo 2 = 256 ∧ getNumVoxels demo 0 = 256 ∧ getNumVoxels demo 1 = 512 := by
  -- as in `demo_wf`, the reads of the value bytes are rewritten before the kernel evaluates
  unfold wfBlock getNumVoxels numVoxStep countListed countPacked getPacked
  rw [demo_wf]
  simp only [demo, Array.getD_eq_getD_getElem?, Array.getElem?_replicate]
  decide +kernel

end Dvid.Props.C10
