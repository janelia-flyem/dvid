import DvidModel.Model.Roi
import DvidModel.Lemmas.Bytes
import DvidModel.Lemmas.Rle
import DvidModel.Lemmas.ImageBlk
/-
  C18 — Spatial keys, packed block indices and run-length volumes preserve geometry.

  Keys, packed indices and marshalled runs are positional codes: fields of a fixed width in a row, found again by
  `drop` or by division with remainder, so each round trip is the round trip of one field.  A run list is judged
  by its voxel set `voxOf` alone: a run is a row `(y, z)` and an interval of x (`within_iff`, in Lemmas/Rle), to
  which `Excise`, `FitToBounds`, `Normalize` and `Partition` each do what their name says.
  Not proved: `Split`, the ROI point query and `VoxelBoundsInside` are only mirrored (Model/Rle, Model/Roi) and
  compared with the Go code by the harness.
-/
namespace Dvid.Props.C18
open Dvid Dvid.Geom Dvid.Rle Dvid.Roi Dvid.ImageBlk

/-! ### block-coordinate keys -/

theorem zyxBytes_eq (x y z : Int) :
    zyxBytes x y z = be32 (offsetBinary z) ++ (be32 (offsetBinary y) ++ (be32 (offsetBinary x) ++ [])) := rfl

theorem offsetBinary_lt (c : Int) (h : I32 c) : offsetBinary c < 4294967296 := by
  unfold offsetBinary I32 at *
  omega

theorem fromBe32_offsetBinary (c : Int) (h : I32 c) (r : Bytes) :
    (fromBe32 (be32 (offsetBinary c) ++ r) : Int) - 2147483648 = c := by
  rw [fromBe32_be32_append _ (offsetBinary_lt c h)]
  unfold offsetBinary I32 at *
  omega

theorem zyx_roundtrip (x y z : Int) (hx : I32 x) (hy : I32 y) (hz : I32 z) :
    zyxDecode (zyxBytes x y z) = some (x, y, z) := by
  rw [zyxBytes_eq]
  -- `zyxDecode` finds its fields with `drop`, which computes on the three `be32` in a row
  show some ((fromBe32 (be32 (offsetBinary x) ++ []) : Int) - 2147483648,
    (fromBe32 (be32 (offsetBinary y) ++ _) : Int) - 2147483648,
    (fromBe32 (be32 (offsetBinary z) ++ _) : Int) - 2147483648) = _
  rw [fromBe32_offsetBinary x hx, fromBe32_offsetBinary y hy, fromBe32_offsetBinary z hz]

/-- keys sort in (z, y, x) order for all signed int32 coordinates -/
theorem zyx_order (x y z x' y' z' : Int) (hx : I32 x) (hy : I32 y) (hz : I32 z) (hx' : I32 x') (hy' : I32 y') (hz' : I32 z') :
    cmpBytes (zyxBytes x y z) (zyxBytes x' y' z') =
      if z < z' then .lt else if z' < z then .gt else
      if y < y' then .lt else if y' < y then .gt else
      if x < x' then .lt else if x' < x then .gt else .eq := by
  rw [zyxBytes_eq, zyxBytes_eq, cmpBytes_be32 _ _ (offsetBinary_lt z hz) (offsetBinary_lt z' hz'),
    cmpBytes_be32 _ _ (offsetBinary_lt y hy) (offsetBinary_lt y' hy'),
    cmpBytes_be32 _ _ (offsetBinary_lt x hx) (offsetBinary_lt x' hx')]
  have o : ∀ a b : Int, I32 a → I32 b → ((offsetBinary a < offsetBinary b) ↔ a < b) := by
    intro a b ha hb
    unfold offsetBinary I32 at *
    omega
  simp only [o, hx, hy, hz, hx', hy', hz']
  rfl

/-! ### packed block index -/

def Mag20 (c : Int) : Prop := -1048576 < c ∧ c < 1048576

theorem decField_encField (c : Int) (h : Mag20 c) : decField (encField c) = c := by
  unfold decField encField Mag20 at *
  simp only [Gen.blockIndexSignBit, Gen.blockIndexMagMask]
  split <;> omega

theorem encField_lt (c : Int) : encField c < 2 ^ Gen.blockIndexShift := by
  unfold encField
  simp only [Gen.blockIndexSignBit, Gen.blockIndexMagMask, Gen.blockIndexShift]
  split <;> omega

theorem blockIndex_roundtrip (x y z : Int) (hx : Mag20 x) (hy : Mag20 y) (hz : Mag20 z) :
    decodeBlockIndex (encodeBlockIndex x y z) = (x, y, z) := by
  unfold decodeBlockIndex encodeBlockIndex
  obtain ⟨dx, mx⟩ := unpack (encField_lt x) (encField z * 2 ^ Gen.blockIndexShift + encField y)
  obtain ⟨dy, my⟩ := unpack (encField_lt y) (encField z)
  simp only [mx, dx, my, dy, Nat.mod_eq_of_lt (encField_lt z), decField_encField x hx, decField_encField y hy,
    decField_encField z hz]

/-- the packed index is injective over its documented range, every coordinate of magnitude below 2^20 -/
theorem blockIndex_injective (x y z x' y' z' : Int) (hx : Mag20 x) (hy : Mag20 y) (hz : Mag20 z)
    (hx' : Mag20 x') (hy' : Mag20 y') (hz' : Mag20 z')
    (h : encodeBlockIndex x y z = encodeBlockIndex x' y' z') : (x, y, z) = (x', y', z') := by
  rw [← blockIndex_roundtrip x y z hx hy hz, ← blockIndex_roundtrip x' y' z' hx' hy' hz', h]

/-- outside the documented range it aliases: 2^20 encodes like 0 (recorded, not claimed) -/
theorem blockIndex_alias_at_2pow20 : encodeBlockIndex 1048576 0 0 = encodeBlockIndex 0 0 0 := by decide

-- non-vacuity: the range hypotheses hold up to the ends of their ranges
example : I32 (-2147483648) ∧ I32 2147483647 ∧ Mag20 (-1048575) ∧ Mag20 1048575 := by
  unfold I32 Mag20
  omega

/-! ### run-length volumes: voxel sets are preserved -/

/-- `Excise`: the fragments are exactly the receiver's voxels outside the other run (when they intersect) -/
theorem excise_vox (r s : RLE) (fr : List RLE) (h : r.excise s = some fr) (p : Pos) :
    voxOf fr p = (r.within p && !s.within p) := by
  simp only [RLE.excise, Option.ite_none_left_eq_some, Option.some.injEq] at h
  obtain ⟨_, _, rfl⟩ := h  -- the two unnamed facts (same row; the runs meet) stay in the context for `omega`
  rw [Bool.eq_iff_iff]
  simp only [voxOf_append, Bool.or_eq_true, voxOf_ite, Bool.and_eq_true, Bool.not_eq_true', ← Bool.not_eq_true,
    within_iff]
  omega

theorem clipMinX_vox (o : Option Int) (r : RLE) (p : Pos) :
    (clipMinX o r).any (·.within p) = (r.within p && optLe o p.1) := by
  rw [Bool.eq_iff_iff]
  cases o with
  | none => simp [clipMinX, optLe]
  | some m =>
    -- left side, spelt out: the run is not dropped, and `p` lies in it as cut or as it was
    simp only [clipMinX, optLe, apply_ite (Option.any _), Option.any_none, Option.any_some, Bool.ite_eq_true_distrib,
      Bool.false_eq_true, if_false_left, Bool.and_eq_true, decide_eq_true_eq, within_iff]
    split <;> omega

theorem clipMaxX_vox (o : Option Int) (r : RLE) (p : Pos) :
    (clipMaxX o r).any (·.within p) = (r.within p && optGe o p.1) := by
  rw [Bool.eq_iff_iff]
  cases o with
  | none => simp [clipMaxX, optGe]
  | some m =>
    simp only [clipMaxX, optGe, apply_ite (Option.any _), Option.any_none, Option.any_some, Bool.ite_eq_true_distrib,
      Bool.false_eq_true, if_false_left, Bool.and_eq_true, decide_eq_true_eq, within_iff]
    split <;> omega

theorem optLt_eq (o : Option Int) (c : Int) : optLt o c = !optLe o c := by
  cases o <;> simp [optLt, optLe, ← decide_not]

theorem optGt_eq (o : Option Int) (c : Int) : optGt o c = !optGe o c := by
  cases o <;> simp [optGt, optGe, ← decide_not]

/-- a `continue` guard in front of the rest of the loop body -/
theorem guard_vox (c : Bool) (o : Option RLE) (p : Pos) :
    (if c = true then none else o).any (·.within p) = (!c && o.any (·.within p)) := by
  cases c <;> rfl

theorem clipX_vox (lo hi : Option Int) (r : RLE) (p : Pos) :
    ((clipMinX lo r).bind (clipMaxX hi)).any (·.within p) = (r.within p && optLe lo p.1 && optGe hi p.1) := by
  rw [← clipMinX_vox lo r p]
  cases clipMinX lo r with
  | none => rfl
  | some r1 => exact clipMaxX_vox hi r1 p

theorem fitOne_vox (b : Bounds) (r : RLE) (p : Pos) :
    (fitOne b r).any (·.within p) = (r.within p && b.inside p) := by
  unfold fitOne Bounds.inside
  simp only [guard_vox, clipX_vox, optLt_eq, optGt_eq, Bool.not_not]
  cases hw : r.within p
  · simp only [Bool.false_and, Bool.and_false]
  · obtain ⟨h1, h2, _⟩ := (within_iff r p).1 hw
    rw [h1, h2]
    simp only [Bool.true_and]
    ac_rfl

/-- `FitToBounds` keeps exactly the voxels inside the bounds, whichever of the six are set -/
theorem fitToBounds_vox (b : Bounds) (rs : List RLE) (p : Pos) :
    voxOf (fitToBounds (some b) rs) p = (voxOf rs p && b.inside p) := by
  refine List.any_filterMap.trans ?_
  show rs.any (fun r => (fitOne b r).any (·.within p)) = (rs.any (·.within p) && b.inside p)
  simp only [fitOne_vox]
  exact List.and_any_distrib_right.symm

/-- `FitToBounds(nil)` keeps every run (by the regenerated fact; as first written it returned no runs at all —
    `copy` into a zero-length slice) -/
theorem fitToBounds_nil (rs : List RLE) : fitToBounds none rs = rs := by
  simp [fitToBounds, Gen.fitToBoundsNilCopies]

theorem within_join {c r : RLE} (hy : r.y = c.y) (hz : r.z = c.z) (hx : r.x = c.x + c.len) (hc : 0 ≤ c.len)
    (hr : 0 ≤ r.len) (p : Pos) :
    ({ c with len := c.len + r.len } : RLE).within p = (c.within p || r.within p) := by
  rw [Bool.eq_iff_iff]
  simp only [Bool.or_eq_true, within_iff]
  omega

/-- lengths must be non-negative: joining a run of negative length to its neighbour drops voxels of the neighbour -/
theorem mergeAdjacent_vox (c : RLE) (rs : List RLE) (p : Pos) (hc : 0 ≤ c.len) (hrs : ∀ r ∈ rs, 0 ≤ r.len) :
    voxOf (mergeAdjacent (some c) rs) p = (c.within p || voxOf rs p) := by
  induction rs generalizing c with
  | nil => rfl
  | cons r rest ih =>
    obtain ⟨hr, hrest⟩ := List.forall_mem_cons.1 hrs
    unfold mergeAdjacent
    split
    · exact congrArg (c.within p || ·) (ih r hr hrest)
    · rw [ih _ (Int.add_nonneg hc hr) hrest, within_join (by omega) (by omega) (by omega) hc hr p]
      exact Bool.or_assoc ..

/-- **Normalisation keeps exactly the same voxel set** (any order of the input, adjacent runs, single
    voxels, negative coordinates; runs of non-negative length). -/
theorem normalize_vox (rs : List RLE) (p : Pos) (hpos : ∀ r ∈ rs, 0 ≤ r.len) :
    voxOf (normalize rs) p = voxOf rs p := by
  have hperm := List.mergeSort_perm rs RLE.le
  unfold normalize
  generalize rs.mergeSort RLE.le = l at hperm
  refine Eq.trans ?_ hperm.any_eq
  cases l with
  | nil => rfl
  | cons r rest =>
    obtain ⟨hr, hrest⟩ := List.forall_mem_cons.1 fun r' h => hpos r' (hperm.mem_iff.1 h)
    exact mergeAdjacent_vox r rest p hr hrest

example : voxOf (mergeAdjacent none [⟨-2, 0, 0, 7⟩, ⟨5, 0, 0, 3⟩, ⟨8, 0, 0, 1⟩]) (8, 0, 0) = true ∧
    mergeAdjacent none [⟨-2, 0, 0, 7⟩, ⟨5, 0, 0, 3⟩, ⟨8, 0, 0, 1⟩] = [⟨-2, 0, 0, 11⟩] := by decide

/-- `partitionRun` from voxel `rx` of block `bx` with `remain` voxels to go -/
theorem partitionRun_spec (bs : Int) (y z : Int) (fuel : Nat) (bx rx remain : Int)
    (hin : InBlock bs bx rx) (hr : remain < fuel) :
    (∀ p, voxOf ((partitionRun bs y z fuel bx (bx * bs) rx remain).map (·.2)) p = (⟨rx, y, z, remain⟩ : RLE).within p) ∧
    (∀ cf ∈ partitionRun bs y z fuel bx (bx * bs) rx remain,
      1 ≤ cf.2.len ∧ cf.2.y = y ∧ cf.2.z = z ∧ InBlock bs cf.1 cf.2.x ∧ InBlock bs cf.1 (cf.2.x + cf.2.len - 1)) := by
  induction fuel generalizing bx rx remain with
  | zero => exact ⟨fun p => (within_empty (show remain ≤ 0 by omega) p).symm, fun _ h => nomatch h⟩
  | succ fuel ih =>
    unfold partitionRun
    rw [inBlock_iff_offset] at hin
    split
    · exact ⟨fun p => (within_empty (show remain ≤ 0 by omega) p).symm, fun _ h => nomatch h⟩
    · -- the first fragment ends with the run or with block `bx`; the rest starts at the first voxel of `bx + 1`
      obtain ⟨ihv, ihb⟩ := ih (bx + 1) (rx + (bx * bs + bs - rx)) (remain - (bx * bs + bs - rx))
        (inBlock_iff_offset.2 (by rw [Int.add_mul, Int.one_mul]; omega)) (by omega)
      rw [Int.add_mul, Int.one_mul] at ihv ihb
      refine ⟨fun p => ?_, List.forall_mem_cons.2 ⟨?_, ihb⟩⟩
      · rw [List.map_cons, voxOf_cons, ihv p, Bool.eq_iff_iff]
        simp only [Bool.or_eq_true, within_iff]
        omega
      · dsimp only
        exact ⟨by omega, rfl, rfl, inBlock_iff_offset.2 hin, inBlock_iff_offset.2 (by omega)⟩

/-- **`Partition` keeps the voxel set**, for every block size with a positive x extent -/
theorem partition_vox (bsx bsy bsz : Int) (hbs : 0 < bsx) (rs : List RLE) (p : Pos) :
    voxOf ((partition bsx bsy bsz rs).map (·.2)) p = voxOf rs p := by
  unfold partition
  rw [List.map_flatMap, voxOf_flatMap]
  refine congrArg (List.any rs) (funext fun r => ?_)
  rw [List.map_map]
  exact (partitionRun_spec bsx r.y r.z _ _ r.x r.len (chunk_inBlock hbs) (by omega)).1 p

/-- **every fragment is filed under the block it lies in**: it is non-empty, its first and last voxel are in
    block x of the fragment's key, and the key's y and z are `chunk` of the run's row (its block, when `bsy` and
    `bsz` are positive: `chunk_inBlock`) -/
theorem partition_in_block (bsx bsy bsz : Int) (hbs : 0 < bsx) (rs : List RLE) :
    ∀ cf ∈ partition bsx bsy bsz rs,
      1 ≤ cf.2.len ∧ InBlock bsx cf.1.1 cf.2.x ∧ InBlock bsx cf.1.1 (cf.2.x + cf.2.len - 1) ∧
      cf.1.2.1 = chunk cf.2.y bsy ∧ cf.1.2.2 = chunk cf.2.z bsz := by
  intro cf hcf
  unfold partition at hcf
  obtain ⟨r, _, hr⟩ := List.mem_flatMap.1 hcf
  obtain ⟨x, hx, rfl⟩ := List.mem_map.1 hr
  obtain ⟨h1, hy, hz, hb0, hb1⟩ :=
    (partitionRun_spec bsx r.y r.z _ _ r.x r.len (chunk_inBlock hbs) (by omega)).2 x hx
  exact ⟨h1, hb0, hb1, congrArg (chunk · bsy) hy.symm, congrArg (chunk · bsz) hz.symm⟩

example : (partition 32 32 32 [⟨-3, 5, 40, 40⟩]).map (fun cf => (cf.1, cf.2.x, cf.2.len)) =
    [((-1, 0, 1), -3, 3), ((0, 0, 1), 0, 32), ((1, 0, 1), 32, 5)] := by decide

/-! ### binary marshalling of run lists -/

theorem marshal_roundtrip (rs : List RLE) (h : ∀ r ∈ rs, I32 r.x ∧ I32 r.y ∧ I32 r.z ∧ I32 r.len) :
    unmarshal (marshal rs) = some rs := by
  unfold unmarshal
  rw [marshal_length, Nat.mul_mod_right, Nat.mul_div_cancel_left _ (by decide : 0 < 16), unmarshalAux_marshal rs h]
  rfl

theorem marshal_roundtrip_one (r : RLE) (hx : I32 r.x) (hy : I32 r.y) (hz : I32 r.z) (hl : I32 r.len) :
    unmarshal (marshal [r]) = some [r] :=
  marshal_roundtrip [r] fun _ h' => List.mem_singleton.1 h' ▸ ⟨hx, hy, hz, hl⟩

/-! ### ROI: mask range -/

/-- `voxelRange`: the returned offsets are exactly the voxels of blocks `[begBlock, endBlock]` that fall
    inside the requested voxel interval, relative to its start -/
theorem voxelRange_spec (bs b0 b1 v0 v1 : Int) (o : Int) :
    let r := voxelRange bs b0 b1 v0 v1
    (r.1 ≤ o ∧ o ≤ r.2) ↔ (b0 * bs ≤ o + v0 ∧ o + v0 ≤ (b1 + 1) * bs - 1 ∧ v0 ≤ o + v0 ∧ o + v0 ≤ v1) := by
  simp only [voxelRange]
  omega

end Dvid.Props.C18
