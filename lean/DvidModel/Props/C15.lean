import DvidModel.Model.Serialize
import DvidModel.Lemmas.Crc32
import DvidModel.Lemmas.Bytes
/-
  C15 — The serialization envelope round-trips and detects corruption.
  Compression libraries are parameters with their round-trip behaviour as hypotheses (`Lossless`);
  CRC-32 is modelled bit-exactly and tied to hash/crc32 by the correspondence harness.
-/
namespace Dvid.Props.C15
open Dvid Dvid.Serialize Dvid.Crc32

/-- `snappyNe`, `gzipNe`: snappy emits at least the length varint, gzip at least its header -/
structure Lossless (cd : Codecs) : Prop where
  snappy : ∀ x, cd.snappyDec (cd.snappyEnc x) = some x
  snappyNe : ∀ x, x ≠ [] → cd.snappyEnc x ≠ []
  lz4 : ∀ x, cd.lz4Dec (cd.lz4Enc x) x.length = some x
  gzip : ∀ lvl x, cd.gzipDec (cd.gzipEnc lvl x) = some x
  gzipNe : ∀ lvl x, x ≠ [] → cd.gzipEnc lvl x ≠ []

def LosslessFormat (f : Nat) : Prop :=
  f = Gen.compUncompressed ∨ f = Gen.compSnappy ∨ f = Gen.compGzip ∨ f = Gen.compLZ4

theorem format_roundtrip (f c : Nat) (hf : f < 8) (hc : c < 4) : decodeFormat (encodeFormat f c) = (f, c) :=
  (by decide : ∀ f : Fin 8, ∀ c : Fin 4, decodeFormat (encodeFormat f.val c.val) = (f.val, c.val)) ⟨f, hf⟩ ⟨c, hc⟩

theorem fromLe32_le32 (n : Nat) (h : n < 4294967296) (r : Bytes) : fromLe32 (le32 n ++ r) = n := le32_digits h

theorem deser_cons (cd : Codecs) (f c : Nat) (hf : f < 8) (hc : c < 4) (rest : Bytes) (u : Bool) :
    deserializeData cd (encodeFormat f c :: rest) u =
      match checkedBody c rest with
      | none => .err
      | some cdata => decompressStage cd f cdata u := by
  simp only [deserializeData, format_roundtrip f c hf hc]
  rfl

theorem checkedBody_none (rest : Bytes) : checkedBody 0 rest = some rest := rfl

theorem checkedBody_crc (crc cdata : Bytes) (hlen : crc.length = 4) :
    checkedBody 1 (crc ++ cdata) = if (crc32 cdata).le = crc then some cdata else none := by
  have hl : ¬ crc.length + cdata.length < 4 := by omega
  have hd : (crc ++ cdata).drop 4 = cdata := List.drop_left' hlen
  have ht : (crc ++ cdata).take 4 = crc := List.take_left' hlen
  simp [checkedBody, Gen.cksumNone, Gen.cksumCRC32, Gen.crcVerifiedOnRead, hl, hd, ht]

theorem deser_precompressed (cd : Codecs) (cdata : Bytes) (f c : Nat) (hf : f < 8) (hc : c = 0 ∨ c = 1)
    (hne : cdata ≠ []) (u : Bool) :
    ∃ s, serializePrecompressed cdata f c = some s ∧ deserializeData cd s u = decompressStage cd f cdata u := by
  have hemp : cdata.isEmpty = false := List.isEmpty_eq_false_iff.mpr hne
  simp only [serializePrecompressed, hemp, Bool.false_eq_true, ↓reduceIte]
  -- gzip has a checksum of its own: none is added
  generalize hdef : (if f = Gen.compGzip then Gen.cksumNone else c) = c'
  have hc' : c' = 0 ∨ c' = 1 := by
    rw [← hdef]
    split
    · exact .inl rfl
    · exact hc
  rcases hc' with rfl | rfl
  · exact ⟨_, rfl, by rw [deser_cons cd f 0 hf (by decide), checkedBody_none]⟩
  · exact ⟨_, rfl, by rw [deser_cons cd f 1 hf (by decide), checkedBody_crc _ _ rfl, if_pos rfl]⟩

theorem decompress_compress (cd : Codecs) (hcd : Lossless cd) (data : Bytes) (f lvl : Nat) (hf : LosslessFormat f)
    (hne : data ≠ []) (hlen : data.length < 4294967296) :
    ∃ z, compress cd data f lvl = some z ∧ z ≠ [] ∧ decompressStage cd f z true = .ok data f := by
  rcases hf with h | h | h | h <;> subst h
  · exact ⟨data, rfl, hne, rfl⟩
  · exact ⟨_, rfl, hcd.snappyNe data hne, by simp [decompressStage, Gen.compUncompressed, Gen.compSnappy, hcd.snappy]⟩
  · exact ⟨_, rfl, hcd.gzipNe lvl data hne, by
      simp [decompressStage, Gen.compUncompressed, Gen.compSnappy, Gen.compLZ4, Gen.compGzip, Gen.compJPEG, hcd.gzip]⟩
  · have hpos : data.length ≠ 0 := fun h => hne (List.length_eq_zero_iff.mp h)
    refine ⟨le32 (data.length % 4294967296) ++ cd.lz4Enc data, rfl, nofun, ?_⟩
    rw [Nat.mod_eq_of_lt hlen]
    have hl : ¬ (le32 data.length).length + (cd.lz4Enc data).length < 4 := by simp [le32]
    have hd : (le32 data.length ++ cd.lz4Enc data).drop 4 = cd.lz4Enc data := rfl
    simp [decompressStage, Gen.compUncompressed, Gen.compSnappy, Gen.compLZ4, hl, hd, fromLe32_le32 _ hlen, hpos, hcd.lz4]

/-- **Round trip.**  With `Lossless` libraries, any non-empty byte string (shorter than 4 GiB: the LZ4 length prefix is
    a uint32) serialised with any lossless compression and checksum setting deserialises, decompression requested, to
    the identical bytes and reports the format it was written with. -/
theorem deser_ser (cd : Codecs) (hcd : Lossless cd) (data : Bytes) (f lvl c : Nat)
    (hf : LosslessFormat f) (hc : c = 0 ∨ c = 1) (hne : data ≠ []) (hlen : data.length < 4294967296) :
    ∃ s, serializeData cd data f lvl c = some s ∧ deserializeData cd s true = .ok data f := by
  obtain ⟨z, hz, hzne, hdec⟩ := decompress_compress cd hcd data f lvl hf hne hlen
  have hf8 : f < 8 := by rcases hf with h | h | h | h <;> subst h <;> decide
  obtain ⟨s, hs, hd⟩ := deser_precompressed cd z f c hf8 hc hzne true
  have hemp : data.isEmpty = false := List.isEmpty_eq_false_iff.mpr hne
  exact ⟨s, by simp only [serializeData, hemp, hz, Bool.false_and, Bool.false_eq_true, ↓reduceIte, hs], hd.trans hdec⟩

/-- Without decompression requested the stored (compressed) bytes come back unchanged with their format. -/
theorem deser_ser_raw (cd : Codecs) (cdata : Bytes) (f c : Nat) (hf : f < 8) (hc : c = 0 ∨ c = 1) (hne : cdata ≠ []) :
    ∃ s, serializePrecompressed cdata f c = some s ∧ deserializeData cd s false = .ok cdata f :=
  deser_precompressed cd cdata f c hf hc hne false

theorem empty_roundtrip (cd : Codecs) (f lvl c : Nat) (u : Bool) :
    serializeData cd [] f lvl c = some [] ∧ deserializeData cd [] u = .ok [] Gen.compUncompressed :=
  ⟨rfl, rfl⟩

/-- A stored value whose four checksum bytes are not the CRC-32 of its payload is rejected, whichever of the
    two was damaged. -/
theorem wrong_checksum_rejected (cd : Codecs) (f : Nat) (hf : f < 8) (cdata crc : Bytes) (hlen : crc.length = 4)
    (hne : crc ≠ (crc32 cdata).le) (u : Bool) :
    deserializeData cd (encodeFormat f 1 :: (crc ++ cdata)) u = .err := by
  rw [deser_cons cd f 1 hf (by decide), checkedBody_crc crc cdata hlen, if_neg (Ne.symm hne)]

/-- **Corruption is detected**, as far as provable: by pigeonhole a 32-bit checksum cannot detect *every* alteration,
    so the statement is for a payload that differs from what was written in exactly one byte (every single-bit and
    single-byte corruption): with CRC-32 enabled it is rejected with an error, never returned as data. -/
theorem single_byte_corruption_rejected (cd : Codecs) (f : Nat) (hf : f < 8) (p s : Bytes) (a b : UInt8)
    (hab : a ≠ b) (u : Bool) :
    deserializeData cd (encodeFormat f 1 :: ((crc32 (p ++ a :: s)).le ++ (p ++ b :: s))) u = .err :=
  -- the stored checksum is that of the payload as written, which is not the checksum of the payload as read
  wrong_checksum_rejected cd f hf (p ++ b :: s) (crc32 (p ++ a :: s)).le rfl
    (fun h => crc32_single_byte p s a b hab (W.le_injective h)) u

theorem ite_ne_panic {c : Prop} [Decidable c] {a b : Outcome} (ha : a ≠ .panic) (hb : b ≠ .panic) :
    (if c then a else b) ≠ .panic := by
  split
  · exact ha
  · exact hb

theorem decompressStage_ne_panic (cd : Codecs) (f : Nat) (cdata : Bytes) (u : Bool) :
    decompressStage cd f cdata u ≠ .panic := by
  unfold decompressStage
  simp only [Gen.lz4LenChecked, Gen.jpegGrayChecked, ↓reduceIte]
  -- down the format switch (`split` on the whole switch is an order of magnitude slower); what is left of
  -- each arm is the library's answer, data or an error
  refine ite_ne_panic nofun (ite_ne_panic ?snappy (ite_ne_panic
    (ite_ne_panic nofun (ite_ne_panic nofun ?lz4)) (ite_ne_panic ?jpeg (ite_ne_panic ?gzip nofun))))
  all_goals split <;> exact nofun

/-- **No input makes deserialisation crash**: for every byte string, every behaviour of the libraries and
    either setting of `uncompress`, the outcome is data or an error, never a run-time panic.  Holds only because
    the source checks the LZ4 length prefix and the JPEG image type: `Gen.lz4LenChecked`, `Gen.jpegGrayChecked`
    are regenerated from dvid/serialize.go. -/
theorem deser_total (cd : Codecs) (s : Bytes) (u : Bool) : deserializeData cd s u ≠ .panic := by
  unfold deserializeData
  split
  · exact nofun
  · split
    · exact nofun
    · exact decompressStage_ne_panic cd _ _ u

/- Non-vacuity: the identity codecs satisfy `Lossless`; the hypotheses of `deser_ser` are met. -/
def idCodecs : Codecs :=
  { snappyEnc := id, snappyDec := some, lz4Enc := id, lz4Dec := fun x _ => some x,
    gzipEnc := fun _ x => x, gzipDec := some, jpegDec := fun _ => none }

theorem idCodecs_lossless : Lossless idCodecs := ⟨fun _ => rfl, fun _ h => h, fun _ => rfl, fun _ _ => rfl, fun _ _ h => h⟩

example : Lossless idCodecs := idCodecs_lossless
example : deserializeData idCodecs ((serializeData idCodecs [1, 2, 3] 4 0 1).getD []) true = .ok [1, 2, 3] 4 := by
  obtain ⟨s, hs, hd⟩ := deser_ser idCodecs idCodecs_lossless [1, 2, 3] 4 0 1 (.inr (.inr (.inr rfl))) (.inr rfl) nofun
    (by decide)
  rw [hs]
  exact hd

end Dvid.Props.C15
