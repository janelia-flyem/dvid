import DvidModel.Model.Pyramid
import DvidModel.Props.C10
/-
  C14 — Lower-resolution label levels always match the documented down-sampling.
  A lower-resolution voxel depends only on the eight voxels beneath it (`level1_local`); those lie in blocks whose
  parent (coordinate halved with floor, Go's >> 1, also for negative coordinates) is the voxel's own block
  (`under_block`).  So recomputing exactly the parent blocks of the changed blocks and keeping every other stored
  block restores "level k+1 is the vote over level k": for one level (`updateLevel_sound`) and, chaining the
  changed-block sets as Mutation.Execute does, for every level (`pyramid_consistent`).  What a vote is, and that
  the order of map iteration does not matter: C10's `vote_spec`, `vote_any_iteration_order`.  The shape of
  getHiresChanges, downresOctant, setBlank and Execute is regenerated from the source (`shape_facts` says on which
  of these facts the model depends).  Left to the harness: the served levels of real instances, compared level to
  level (DESIGN.md §4 C14).
-/
namespace Dvid.Props.C14
open Dvid Dvid.Block Dvid.Pyramid

/-- halving and dividing by the block size commute (both floor) -/
theorem under_block (B : Int) (hB : 0 < B) (a b c : Int) :
    parentOf (blockOf B a b c) = blockOf B (a / 2) (b / 2) (c / 2) := by
  have comm : ∀ t : Int, t / B / 2 = t / 2 / B := fun t => by
    rw [Int.ediv_ediv_of_nonneg (Int.le_of_lt hB), Int.mul_comm B 2, ← Int.ediv_ediv_of_nonneg (by omega)]
  simp only [parentOf, blockOf, Gen.downresParentIsHalf, ↓reduceIte, comm]

-- odd and even negative block coordinates
example : parentOf (-1, -3, 5) = (-1, -2, 2) ∧ parentOf (-2, -3, 4) = (-1, -2, 2) := by decide

theorem level1_local (v v' : Vol) (x y z : Int)
    (h : ∀ a b c : Int, a / 2 = x → b / 2 = y → c / 2 = z → v a b c = v' a b c) :
    level1 v x y z = level1 v' x y z := by
  have h0 : ∀ t : Int, 2 * t / 2 = t := fun t => by omega
  have h1 : ∀ t : Int, (2 * t + 1) / 2 = t := fun t => by omega
  simp only [level1, under, h, h0, h1]

theorem updateLevel_sound (B : Int) (hB : 0 < B) (below below' stored : Vol) (T : BCoord → Prop)
    [DecidablePred (parents T)]
    (hstored : ∀ x y z, stored x y z = level1 below x y z)
    (hchg : ∀ x y z, ¬ T (blockOf B x y z) → below' x y z = below x y z) :
    ∀ x y z, updateLevel B stored below' (parents T) x y z = level1 below' x y z := by
  intro x y z
  unfold updateLevel
  split
  next => rfl
  next hnp =>
    -- a block that is not recomputed is no parent, so none of the eight voxels beneath lies in a changed block
    rw [hstored]
    refine level1_local below below' x y z fun a b c ha hb hc => (hchg a b c fun hT => hnp ⟨_, hT, ?_⟩).symm
    rw [under_block B hB, ha, hb, hc]

open Classical in
/-- `Mutation.Execute`: level by level, recompute the parents of what changed below -/
noncomputable def exec (B : Int) (lv : Nat → Vol) (v0' : Vol) (T : BCoord → Prop) : Nat → Vol × (BCoord → Prop)
  | 0 => (v0', T)
  | k + 1 =>
    let r := exec B lv v0' T k
    (updateLevel B (lv (k + 1)) r.1 (parents r.2), parents r.2)

open Classical in
/-- after `exec` every level is the vote over the level below it, whatever blocks the mutation touched; the second
    conjunct is `hchg` at level 0 and the definition of `exec` above it -/
theorem pyramid_consistent (B : Int) (hB : 0 < B) (lv : Nat → Vol) (v0' : Vol) (T : BCoord → Prop)
    (hcons : ∀ k x y z, lv (k + 1) x y z = level1 (lv k) x y z)
    (hchg : ∀ x y z, ¬ T (blockOf B x y z) → v0' x y z = lv 0 x y z) (k : Nat) :
    (∀ x y z, (exec B lv v0' T (k + 1)).1 x y z = level1 (exec B lv v0' T k).1 x y z) ∧
    (∀ x y z, ¬ (exec B lv v0' T k).2 (blockOf B x y z) → (exec B lv v0' T k).1 x y z = lv k x y z) := by
  have hout : ∀ k x y z, ¬ (exec B lv v0' T k).2 (blockOf B x y z) → (exec B lv v0' T k).1 x y z = lv k x y z := by
    intro k
    cases k with
    | zero => exact hchg
    | succ k => exact fun x y z hn => if_neg hn
  exact ⟨updateLevel_sound B hB (lv k) (exec B lv v0' T k).1 (lv (k + 1)) (exec B lv v0' T k).2 (hcons k) (hout k),
    hout k⟩

/-- **`Block.Downres` on a subset of octants is sound**, the solid-block shortcut included: if the level below
    changed only inside the octants handed in, the block is again the vote over it at every voxel -/
theorem blockDownres_sound (stored below below' : Vol) (given : Nat → Bool) (solid : Nat → Option Nat)
    (octOf : Int → Int → Int → Nat)
    (hstored : ∀ x y z, stored x y z = level1 below x y z)
    (hchg : ∀ x y z, given (octOf x y z) = false → under below' x y z = under below x y z)
    (hoct : ∀ x y z, octOf x y z < 8)
    (hsolid : ∀ o l, given o = true → solid o = some l → ∀ x y z, octOf x y z = o → ∀ v ∈ under below' x y z, v = l) :
    ∀ x y z, blockDownres stored below' given solid octOf x y z = level1 below' x y z := by
  intro x y z
  -- an octant that was not handed in did not change below, so the stored voxel still is the vote
  have hslow : (if given (octOf x y z) then level1 below' x y z else stored x y z) = level1 below' x y z :=
    ite_eq_left_iff.2 fun hg => by rw [hstored, level1, level1, hchg x y z (Bool.eq_false_iff.2 hg)]
  unfold blockDownres blockDownresWith
  simp only [Gen.downresSolidNeedsAllOctants, ↓reduceIte]
  cases solid 0 with
  | none => exact hslow
  | some l =>
    simp only
    split
    next hall =>
      -- the shortcut: all eight octants are given and solid of one label `l`, so all voxels beneath are `l`
      have ho := List.all_eq_true.1 hall (octOf x y z) (List.mem_range.2 (hoct x y z))
      rw [Bool.and_eq_true, beq_iff_eq] at ho
      exact (C10.vote_const (List.cons_ne_nil _ _) (hsolid _ l ho.1 ho.2 x y z rfl)).symm
    next => exact hslow

/-- **the earlier shape of `setBlank` is unsound**: one solid label-0 octant handed in, the seven others untouched
    and holding label 5: the block became a solid 0 block although the vote below is 5 in the untouched octants -/
theorem nil_octant_as_zero_blanks_siblings :
    let below' : Vol := fun x _ _ => if x < 2 then 0 else 5
    let octOf : Int → Int → Int → Nat := fun x _ _ => if x < 1 then 0 else 1
    let given : Nat → Bool := fun o => o == 0
    let solid : Nat → Option Nat := fun o => if o == 0 then some 0 else none
    blockDownresWith false (level1 below') below' given solid octOf 1 0 0 = 0 ∧ level1 below' 1 0 0 = 5 ∧
    blockDownresWith true (level1 below') below' given solid octOf 1 0 0 = 5 := by
  decide

/-- All hold on this tree.  The model depends on two: `parentOf` branches on `downresParentIsHalf`, `blockDownres`
    on `downresSolidNeedsAllOctants`.  The other four occur in no definition (`exec` chains the levels and
    `blockDownresWith` keeps the octants not handed in, whatever they say; a voxel's octant is the parameter
    `octOf`; the idle test concerns the harness): they record the shape of `Execute`, `downresOctant`,
    `getHiresChanges`, `AnyScaleUpdating`; if it changes, only this theorem fails. -/
theorem shape_facts : Gen.downresParentIsHalf = true ∧ Gen.downresOctantFromLowBits = true ∧
    Gen.downresChainsLevels = true ∧ Gen.downresKeepsUntouchedOctants = true ∧
    Gen.downresSolidNeedsAllOctants = true ∧ Gen.downresIdleLooksAtComputedScales = true := by decide

theorem level_voxel_is_vote (v : Vol) (x y z : Int) :
    level1 v x y z = vote (under v x y z) := rfl

end Dvid.Props.C14
