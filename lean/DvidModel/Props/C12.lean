import DvidModel.Model.Ids
import DvidModel.Gen.Fixes
import DvidModel.Props.C07
/-
  C12 — Server-issued identifiers are unique and only move forward.
  The three allocators (mutation ids, labels, labels after `set-nextlabel`) are handled alike: each carries a
  watermark (the next id it would issue) that no event lowers, and every event issues increasing ids between
  the watermark before and after it (`Advances`); `issued_sorted` turns that into "strictly increasing along
  every run".  What differs is the invariant that keeps the watermark from falling at a restart.
-/
namespace Dvid.Props.C12
open Dvid Dvid.Ids

def Advances (w w' : Nat) (out : List Nat) : Prop :=
  w ≤ w' ∧ out.Pairwise (· < ·) ∧ ∀ x ∈ out, w ≤ x ∧ x < w'

theorem Advances.nil {w w' : Nat} (h : w ≤ w') : Advances w w' [] := ⟨h, List.Pairwise.nil, nofun⟩

theorem Advances.one (w : Nat) : Advances w (w + 1) [w] :=
  ⟨Nat.le_succ w, List.pairwise_singleton _ _, List.forall_mem_singleton.mpr ⟨Nat.le_refl w, Nat.lt_succ_self w⟩⟩

/-- a span in the shape in which `newLabels` returns it -/
theorem Advances.span (w n : Nat) : Advances w (w + n) ((List.range n).map (· + w)) := by
  refine ⟨Nat.le_add_right w n, ?_, fun x hx => ?_⟩
  · rw [List.pairwise_map]
    exact List.pairwise_lt_range.imp fun h => Nat.add_lt_add_right h w
  · obtain ⟨k, hk, rfl⟩ := List.mem_map.mp hx
    have := List.mem_range.mp hk
    omega

/-- `run` is any function that concatenates what the events issue (`hnil`, `hcons`): each allocator of the model
    comes with its own.  `I` is the invariant the allocator's steps keep, `w` its watermark: along every run the ids
    issued are at or above `w s` and strictly increasing. -/
theorem issued_sorted {σ ε : Type} {step : σ → ε → σ × List Nat} {run : σ → List ε → List Nat}
    (hnil : ∀ s, run s [] = []) (hcons : ∀ s e es, run s (e :: es) = (step s e).2 ++ run (step s e).1 es)
    {I : σ → Prop} {w : σ → Nat}
    (hstep : ∀ s e, I s → I (step s e).1 ∧ Advances (w s) (w (step s e).1) (step s e).2)
    (s : σ) (hs : I s) (es : List ε) : (∀ x ∈ run s es, w s ≤ x) ∧ (run s es).Pairwise (· < ·) := by
  induction es generalizing s with
  | nil =>
    rw [hnil]
    exact ⟨nofun, List.Pairwise.nil⟩
  | cons e es ih =>
    obtain ⟨hI, hw, hp, hb⟩ := hstep s e hs
    obtain ⟨h1, h2⟩ := ih (step s e).1 hI
    rw [hcons]
    exact ⟨List.forall_mem_append.2 ⟨fun x h => (hb x h).1, fun x h => Nat.le_trans hw (h1 x h)⟩,
      List.pairwise_append.2 ⟨hp, h2, fun a ha b hb' => Nat.lt_of_lt_of_le (hb a ha).2 (h1 b hb')⟩⟩

/-! ### mutation ids -/

/-- the counter never runs ahead of what the store holds -/
def MutInv (m : Mut) : Prop := m.cur < m.persisted ∧ m.saved = m.persisted

theorem stride_pos : 0 < Gen.strideMutationID := by decide

theorem mut_init_inv (start p : Nat) : MutInv (Mut.init start p) :=
  ⟨Nat.lt_add_of_pos_right stride_pos, rfl⟩

theorem mut_init_cur_ge (start p : Nat) : start ≤ (Mut.init start p).cur ∧ p ≤ (Mut.init start p).cur := by
  simp only [Mut.init]
  split <;> omega

theorem mut_alloc_spec (m : Mut) (h : MutInv m) : MutInv m.alloc.1 ∧ m.alloc.2 = m.cur ∧ m.alloc.1.cur = m.cur + 1 := by
  obtain ⟨h1, h2⟩ := h
  have := stride_pos
  simp only [Mut.alloc, MutInv]
  split
  · simp only [and_true]
    omega
  · simp only [and_true]
    omega

/-- a restart, clean or not, resumes at the persisted bound, which is above every id handed out -/
theorem mut_step (start : Nat) (m : Mut) (e : MutEv) (h : MutInv m) :
    MutInv (Mut.step start m e).1 ∧ Advances m.cur (Mut.step start m e).1.cur (Mut.step start m e).2.toList := by
  have hre : MutInv (Mut.init start m.persisted) ∧ Advances m.cur (Mut.init start m.persisted).cur [] :=
    ⟨mut_init_inv start m.persisted, .nil (Nat.le_trans (Nat.le_of_lt h.1) (mut_init_cur_ge start m.persisted).2)⟩
  cases e with
  | alloc =>
    obtain ⟨hi, hid, hc⟩ := mut_alloc_spec m h
    show MutInv m.alloc.1 ∧ Advances m.cur m.alloc.1.cur [m.alloc.2]
    rw [hid, hc]
    exact ⟨hi, .one m.cur⟩
  | restart => exact hre
  | crashInAlloc => exact hre

theorem mut_run_sorted (start : Nat) (m : Mut) (h : MutInv m) (es : List MutEv) :
    (∀ id ∈ Mut.run start m es, m.cur ≤ id) ∧ (Mut.run start m es).Pairwise (· < ·) := by
  refine issued_sorted (step := fun m e => ((Mut.step start m e).1, (Mut.step start m e).2.toList))
    (fun _ => rfl) (fun m e es => ?_) (mut_step start) m h es
  rw [Mut.run]
  cases Mut.step start m e with
  | mk m' o => cases o <;> rfl

/-- **Mutation ids are never issued twice and strictly increase in issue order, across restarts and
    crashes** (from a freshly created repo). -/
theorem mutid_strict_mono (start : Nat) (es : List MutEv) :
    (Mut.run start (Mut.init start 0) es).Pairwise (· < ·) :=
  (mut_run_sorted start _ (mut_init_inv start 0) es).2

theorem mutid_ge_start (start : Nat) (es : List MutEv) : ∀ id ∈ Mut.run start (Mut.init start 0) es, start ≤ id :=
  fun id h => Nat.le_trans (mut_init_cur_ge start 0).1 ((mut_run_sorted start _ (mut_init_inv start 0) es).1 id h)

/- Non-vacuity: a run that crosses a stride boundary with a crash exactly there -/
example : (Mut.run 1000 (Mut.init 1000 0)
    ((List.replicate 99 MutEv.alloc) ++ [.crashInAlloc, .alloc, .restart, .alloc])).getLast? = some 1200 := by
  decide

/-! ### labels (no administrator repositioning: `next = 0` throughout) -/

/-- every label known to be present at some version is covered by the repo-wide maximum, in memory and in
    the store -/
def LabInv (l : Lab) : Prop :=
  l.next = 0 ∧ l.pNext = 0 ∧ (∀ v, l.maxVer v ≤ l.maxRepo) ∧ l.pVer = l.maxVer ∧ l.pRepo = l.maxRepo

theorem lab_init_inv : LabInv Lab.init := ⟨rfl, rfl, fun _ => Nat.le_refl _, rfl, rfl⟩

theorem upd_le {f : Nat → Nat} {m v : Nat} (hf : ∀ x, f x ≤ m) (hv : v ≤ m) (k : Nat) : ∀ x, upd f k v x ≤ m := by
  intro x
  unfold upd
  split
  · exact hv
  · exact hf x

theorem newLabels_spec (l : Lab) (v n : Nat) (h : LabInv l) :
    LabInv (l.newLabels v n).1 ∧
    Advances (l.maxRepo + 1) ((l.newLabels v n).1.maxRepo + 1) ((List.range n).map (· + (l.newLabels v n).2.1)) := by
  obtain ⟨h1, h2, h3, h4, h5⟩ := h
  rw [Lab.newLabels, if_neg fun hn => hn h1]
  exact ⟨⟨h1, h2, upd_le (fun x => Nat.le_trans (h3 x) (Nat.le_add_right _ n)) (Nat.le_refl _) v, by rw [h4], rfl⟩,
    Nat.add_right_comm .. ▸ Advances.span (l.maxRepo + 1) n⟩

theorem ingest_spec (l : Lab) (v label : Nat) (h : LabInv l) :
    LabInv (l.ingest v label) ∧ label ≤ (l.ingest v label).maxRepo ∧ l.maxRepo ≤ (l.ingest v label).maxRepo := by
  obtain ⟨h1, h2, h3, h4, h5⟩ := h
  by_cases hlt : l.maxVer v < label
  · by_cases hgt : label > l.maxRepo
    · simp only [Lab.ingest, hlt, hgt, ↓reduceIte]
      exact ⟨⟨h1, h2, upd_le (fun x => Nat.le_trans (h3 x) (Nat.le_of_lt hgt)) (Nat.le_refl _) v, by rw [h4], rfl⟩,
        Nat.le_refl _, Nat.le_of_lt hgt⟩
    · simp only [Lab.ingest, hlt, hgt, ↓reduceIte]
      exact ⟨⟨h1, h2, upd_le h3 (Nat.not_lt.mp hgt) v, by rw [h4], h5⟩, Nat.not_lt.mp hgt, Nat.le_refl _⟩
  · simp only [Lab.ingest, hlt, ↓reduceIte]
    exact ⟨⟨h1, h2, h3, h4, h5⟩, Nat.le_trans (Nat.not_lt.mp hlt) (h3 v), Nat.le_refl _⟩

theorem reload_maxRepo (l : Lab) (vs : List Nat) (hv : ∀ v ∈ vs, l.pVer v ≤ l.pRepo) (hr : l.pRepo = l.maxRepo) :
    (l.reload vs).maxRepo = l.maxRepo := by
  have hfold : vs.foldl (fun m v => max m (l.pVer v)) 0 ≤ l.pRepo :=
    List.foldlRecOn (motive := (· ≤ l.pRepo)) vs _ (Nat.zero_le _) fun a ha v hm => Nat.max_le.mpr ⟨ha, hv v hm⟩
  show max l.pRepo _ = l.maxRepo
  rw [Nat.max_eq_left hfold, hr]

theorem reload_spec (l : Lab) (vs : List Nat) (h : LabInv l) :
    LabInv (l.reload vs) ∧ (l.reload vs).maxRepo = l.maxRepo := by
  obtain ⟨h1, h2, h3, h4, h5⟩ := h
  have h3' : ∀ v, l.pVer v ≤ l.maxRepo := fun v => h4 ▸ h3 v
  have hm := reload_maxRepo l vs (fun v _ => h5 ▸ h3' v) h5
  exact ⟨⟨h2, h2, fun v => le_of_le_of_eq (h3' v) hm.symm, rfl, h5.trans hm.symm⟩, hm⟩  -- `reload` sets `next := pNext`

theorem lab_step (l : Lab) (e : LabEv) (h : LabInv l) :
    LabInv (l.step e).1 ∧ Advances (l.maxRepo + 1) ((l.step e).1.maxRepo + 1) (l.step e).2 := by
  cases e with
  | newLabels v n => exact newLabels_spec l v (n + 1) h
  | ingest v label =>
    obtain ⟨hi, _, hle⟩ := ingest_spec l v label h
    exact ⟨hi, .nil (Nat.succ_le_succ hle)⟩
  | restart vs =>
    obtain ⟨hi, he⟩ := reload_spec l vs h
    exact ⟨hi, .nil (Nat.le_of_eq (congrArg (· + 1) he.symm))⟩

theorem lab_run_sorted (l : Lab) (h : LabInv l) (es : List LabEv) :
    (∀ x ∈ Lab.run l es, l.maxRepo < x) ∧ (Lab.run l es).Pairwise (· < ·) :=
  issued_sorted (w := fun l => l.maxRepo + 1) (fun _ => rfl) (fun _ _ _ => rfl) lab_step l h es

/-- **Allocated labels are never issued twice and strictly increase in issue order**, across ingests of
    arbitrary labels and restarts -/
theorem label_strict_mono (es : List LabEv) : (Lab.run Lab.init es).Pairwise (· < ·) :=
  (lab_run_sorted Lab.init lab_init_inv es).2

/-- **A newly allocated label is greater than every label already present** in the volume at any version
    (every label that an earlier ingest announced), unless an administrator repositioned the counter -/
theorem newlabel_gt_present (pre post : List LabEv) (v label : Nat) :
    ∀ x ∈ Lab.run ((pre ++ [LabEv.ingest v label]).foldl (fun l e => (l.step e).1) Lab.init) post, label < x := by
  intro x hx
  rw [List.foldl_append] at hx
  have hinv : LabInv (pre.foldl (fun l e => (l.step e).1) Lab.init) :=
    List.foldlRecOn pre _ lab_init_inv fun l h e _ => (lab_step l e h).1
  -- after the ingest the repo-wide maximum covers `label`, and everything issued later is above it
  obtain ⟨hi, hle, _⟩ := ingest_spec _ v label hinv
  exact Nat.lt_of_le_of_lt hle ((lab_run_sorted _ hi post).1 x hx)

/-! ### labels after the counter was repositioned (`set-nextlabel`) -/

/-- a restart reloads the persisted counter, and that is the counter as last issued (regenerated fact
    `Gen.nextLabelPersistsIssued`) -/
theorem nx_step (x : Nx) (e : NxEv) (h : x.pNext = x.next) :
    (x.step e).1.pNext = (x.step e).1.next ∧ Advances (x.next + 1) ((x.step e).1.next + 1) (x.step e).2 := by
  cases e with
  | one => exact ⟨rfl, .one (x.next + 1)⟩
  | many n => exact ⟨rfl, Nat.add_right_comm .. ▸ Advances.span (x.next + 1) (n + 1)⟩
  | restart => exact ⟨rfl, .nil (Nat.le_of_eq (congrArg (· + 1) h.symm))⟩

/-- **after `set-nextlabel n` no label is issued twice and labels strictly increase**, for every interleaving of
    single allocations (cleave, split), span allocations (nextlabel/k) and restarts or crashes at any point
    between requests — and every issued label is above `n` -/
theorem repositioned_labels_strict_mono (n : Nat) (es : List NxEv) :
    (Nx.run (Nx.set n) es).Pairwise (· < ·) ∧ ∀ l ∈ Nx.run (Nx.set n) es, n < l :=
  (issued_sorted (I := fun x => x.pNext = x.next) (w := fun x => x.next + 1) (fun _ => rfl) (fun _ _ _ => rfl)
    nx_step (Nx.set n) rfl es).symm

example : Nx.run (Nx.set 1000) [.one, .restart, .many 1, .one, .restart, .one] = [1001, 1002, 1003, 1004, 1005] := by
  decide

/-! ### version ids -/

/-- the next version id issued names no node that exists -/
theorem version_ids_fresh (rs : List Manager.Req) :
    ∀ n ∈ (rs.foldl (fun s r => (Manager.step s r).1) Manager.init).nodes,
      n.v < (rs.foldl (fun s r => (Manager.step s r).1) Manager.init).nextV :=
  (C07.reachable rs).inv.fresh

/-! ### Stored counters that lag behind the ids in use

`putNewIDs` stores the three id counters outside the id mutex, so with concurrent requests (or a crash between
two metadata writes) the stored value can be older than the ids already handed out.  What keeps ids unique then
is the start-up repair (`loadMetadata`: version ids and repo ids) and, for instance ids, the re-draw in
`newInstanceID` while the drawn id belongs to a live instance.  Both shapes are regenerated from the source. -/

def sup : List Nat → Nat
  | [] => 0
  | x :: xs => max x (sup xs)

theorem le_sup {x : Nat} {l : List Nat} (h : x ∈ l) : x ≤ sup l := by
  induction l with
  | nil => cases h
  | cons y ys ih =>
    simp only [sup]
    rcases List.mem_cons.mp h with rfl | h'
    · exact Nat.le_max_left _ _
    · exact Nat.le_trans (ih h') (Nat.le_max_right _ _)

/-- `loadMetadata`: the counter read from the store, raised above every stored id when the repair is present -/
def loadCounter (repair : Bool) (stored : Nat) (ids : List Nat) : Nat :=
  if repair then ids.foldl (fun c v => if v ≥ c then v + 1 else c) stored else stored

theorem foldl_above {f : Nat → Nat → Nat} (hf : ∀ c v, c ≤ f c v ∧ v < f c v) (ids : List Nat) (c : Nat) :
    c ≤ ids.foldl f c ∧ ∀ v ∈ ids, v < ids.foldl f c := by
  induction ids generalizing c with
  | nil => exact ⟨Nat.le_refl _, nofun⟩
  | cons x xs ih =>
    obtain ⟨h1, h2⟩ := ih (f c x)
    exact ⟨Nat.le_trans (hf c x).1 h1, List.forall_mem_cons.2 ⟨Nat.lt_of_lt_of_le (hf c x).2 h1, h2⟩⟩

/-- `loadCounter` in the regenerated shape of the repo id repair: after start-up the repo id counter is above every
    stored id, however far the stored counter lagged, so the next id issued is new.  The version id counter has a
    repair and a flag of its own: `C04.reload_counter_fresh`. -/
theorem reload_counter_above_stored (stored : Nat) (ids : List Nat) :
    ∀ v ∈ ids, v < loadCounter Gen.startupRepairsRepoCounter stored ids := by
  have hg : Gen.startupRepairsRepoCounter = true := by decide
  rw [hg]
  exact (foldl_above (fun c v => by split <;> omega) ids stored).2

/-- without the repair a lagging counter re-issues an id in use (the defect fixed in 1f54ba4) -/
example : ¬ ∀ v ∈ [1, 2], v < loadCounter false 2 [1, 2] := by decide

/-- `newInstanceID`, sequential generator: draw, and draw again while the id belongs to a live instance -/
def drawInstance (skip : Bool) (live : List Nat) : Nat → Nat → Nat
  | ctr, 0 => ctr
  | ctr, fuel + 1 => if skip && live.contains ctr then drawInstance skip live (ctr + 1) fuel else ctr

theorem drawInstance_fresh (live : List Nat) (ctr fuel : Nat) (hf : sup live + 1 ≤ ctr + fuel) :
    drawInstance Gen.newInstanceIdSkipsLiveIds live ctr fuel ∉ live := by
  have hg : Gen.newInstanceIdSkipsLiveIds = true := by decide
  rw [hg]
  induction fuel generalizing ctr with
  | zero =>
    intro hm
    have := le_sup hm
    simp only [drawInstance] at this
    omega
  | succ n ih =>
    simp only [drawInstance, Bool.true_and]
    by_cases hc : live.contains ctr = true
    · rw [if_pos hc]
      exact ih (ctr + 1) (by omega)
    · rw [if_neg hc]
      intro hm
      exact hc (List.contains_iff_mem.mpr hm)

/-- without the re-draw a lagging counter hands out a live instance's id (what the seeded change C06-6 does) -/
example : drawInstance false [1, 2] 1 5 ∈ [1, 2] := by decide
example : drawInstance true [1, 2] 1 5 = 3 := by decide

end Dvid.Props.C12
